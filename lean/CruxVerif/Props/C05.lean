/-
C05 — a command behaves the same wherever it is hosted; no wake-up is lost between layers.
-/
import CruxVerif.Lemmas.Wake
import CruxVerif.Lemmas.Bridge
import CruxVerif.Lemmas.RtTask
namespace Props.C05
open M.Rt

/-- waking a task of a command nested at ANY depth reaches the outermost host in the same step: along the hosting chain
    every host task is re-queued, and the executor task at the root lands on the executor's ready queue -/
theorem wake_reaches_root (l : List (Nat × Nat × Nat)) (w : World) (etid fuel : Nat)
    (hc : Chain w l (some (.root etid))) (hnd : (l.map (·.1)).Nodup) (hlen : l.length ≤ fuel) :
    ∀ p ∈ l.head?, (wake fuel (.task p.1 p.2.1 p.2.2) w).execReady = w.execReady ++ [etid] :=
  M.Rt.wake_reaches_root l w etid fuel hc hnd hlen

/-- `poll_next` registers the host's waker before running the tasks (stream.rs:29-33): while the hosted command
    settles, its AtomicWaker already holds the host's token -/
theorem host_registers_before_running (settle : Nat → World → Option World) (wk : Waker) (cid : Nat) (w : World)
    (hs : settle cid (w.modCmd cid fun c => { c with waker := some wk }) = none) :
    pollNextF settle wk cid w = none := by
  simp [pollNextF, hs]

/-- resolving a request wakes the waker registered on its channel; dropping it closes the channel and wakes as well
    (context.rs:57-62,84-91) — the two ways a shell action reaches a nested task -/
theorem drop_wakes_like_resolve (w : World) (l : Nat) (wk : Waker) (h : (w.leaf l).waker = some wk)
    (hl : (w.leaf l).legacy = false) :
    w.dropSender l = (w.modLeaf l fun lf => { lf with senderAlive := false, waker := none }).wake wk := by
  simp [World.dropSender, h, hl]

/-- the serialized bridge adds ids and nothing else: decoding its requests gives exactly the typed core's effects, in order -/
theorem bridge_is_core_plus_ids (b : M.Bridge.Bridge) (ev : Ev) (effs : List Eff) (core : Core)
    (h : M.Rt.processEvent ev b.core = some (effs, core)) :
    ∃ reqs reg, M.Bridge.processEvent b (some ev) = some (.ok reqs, { core := core, registry := reg }) ∧
      reqs.map (·.2) = effs :=
  ⟨_, _, M.Bridge.processEvent_some b ev effs core h, M.Bridge.registerAll_effects _ _⟩

/-- STATED, NOT PROVED: host invariance as an observational equivalence of whole interactions (direct, wrapped to any depth,
    Core, Bridge). Checked on the implementation (hosts compared pairwise) and against the model by the `hosts` / `law`
    cases on every run; the proof is the simulation argument of DESIGN §3.9 on top of `wake_reaches_root`. -/
def host_invariance_goal : Prop :=
  ∀ (c : Cmd) (acts : List M.Hosts.Action) od d ok k,
    M.Hosts.runDirect c true acts = some (od, d) →
    M.Hosts.runCore [(1, c, [])] true (.ev 1 0 :: acts) = some (ok, k) →
    od.map (fun o => M.Hosts.sortBy M.Hosts.keyLe o.effs) =
      ok.map (fun o => M.Hosts.sortBy M.Hosts.keyLe (o.effs ++ o.probe.getD []))

/-! non-vacuity: a two-level chain ending in a root waker -/
example : Chain { cmds := [{ waker := some (.root 7) }, { waker := some (.task 0 0 1) }] } [(1, 0, 2), (0, 0, 1)] (some (.root 7)) :=
  .cons 1 0 2 (0, 0, 1) [] _ rfl (.last 0 0 1 _ rfl)

end Props.C05
