/-
C18 — every timer has a unique id and at most one outcome.

Model: `M.Timer` (one timer = an explicit state machine read off crux_time/src/command.rs and the command runtime;
several timers = the product; the legacy capability API with its global cleared-id set).
Specification: `S.Timer` (a monitor over what was done to a timer and what it showed, one Bool clause per sentence
of the property text).

The quantifier of the property — every interleaving of first poll, fire, clear, handle dropped, request dropped,
clear answered, late / duplicate / wrong responses — is `∀ acts : List (Act × Bool)`: any list of
(action, is the command run afterwards?) pairs, unbounded.  `S.Timer.holdsAlong K k id {} (entries t acts)` says that
clause `K` holds at every step of the run `acts` of timer `t` (steps after a response of the wrong kind / with a
foreign id was delivered where the code inspects it are exempt: the real task panics there and the property is
silent about such shells).  Helper lemmas: `CruxVerif/Lemmas/Timer/*.lean`.
-/
import CruxVerif.Lemmas.Timer.Direct
import CruxVerif.Lemmas.Timer.LegacyWorld
import CruxVerif.Lemmas.Timer.MixedSound
namespace Props.C18
open M.Timer S.Timer Lemmas.Timer

/-- a timer as `notify_after` / `notify_at` create it -/
abbrev fresh (k : Kind) (id : Nat) : Timer := { kind := k, id := id }

/-- every clause of the specification holds along every run of a fresh timer -/
theorem clause_holds (key : String) (K : Mon → Mon → Entry → Bool) (k : Kind) (id : Nat)
    (hK : (key, K) ∈ clauses k id) (acts : List (Act × Bool)) :
    holdsAlong K k id {} (entries (fresh k id) acts) = true :=
  holdsAlong_entries key K acts {} (fresh k id) hK (inv_init k id) (R_init k id)

macro "clause_mem" : tactic =>
  `(tactic| (unfold clauses; repeat (first | exact List.mem_cons_self | apply List.mem_cons_of_mem)))

/-! ### ids -/

/-- Ids handed out by the process-wide counter are pairwise distinct (until the `usize` counter has gone round). -/
theorem ids_unique (counter n : Nat) (h : n ≤ 18446744073709551616) : (allocIds counter n).Nodup :=
  allocIds_nodup counter n h

/-- … and strictly increasing in creation order while the counter does not wrap. -/
theorem ids_increasing (counter n : Nat) (h : counter % 18446744073709551616 + n ≤ 18446744073709551616) :
    increasing (allocIds counter n) = true :=
  allocIds_increasing n counter h

/-- **Both APIs, one counter.** Whatever the interleaving of legacy-capability and command-API timer creations in a
    process (`apis`: `true` = legacy, `false` = command API), the ids handed out are pairwise distinct. -/
theorem ids_unique_joint (counter : Nat) (apis : List Bool) (h : apis.length ≤ 18446744073709551616) :
    ((allocSeq counter apis).map (·.2)).Nodup := by
  rw [allocSeq_ids]; exact allocIds_nodup counter _ h

theorem allocThreads_ids (sched : List Nat) : ∀ c, (allocThreads c sched).map (·.2) = allocIds c sched.length := by
  induction sched with
  | nil => intro c; rfl
  | cons th rest ih => intro c; simp only [allocThreads, List.map_cons, List.length_cons, allocIds, ih]

/-- **Several threads, one counter.** Whatever the order in which the `fetch_add`s of any number of threads creating timers
    (through either API, in any number of cores) take effect, the ids handed out in the process are pairwise distinct —
    in particular two timers created on DIFFERENT threads never share an id. -/
theorem ids_unique_across_threads (counter : Nat) (sched : List Nat) (h : sched.length ≤ 18446744073709551616) :
    ((allocThreads counter sched).map (·.2)).Nodup := by
  rw [allocThreads_ids]; exact allocIds_nodup counter _ h

/-- … and on the model of ONE app that starts timers through both APIs (host `mixed`): after every history — starts
    of legacy and command-API timers in any order, with polls, fires, clears, drops and (late / duplicate / wrong)
    responses in between — no two timers, of whichever APIs, have the same id, and every id is below the shared counter.
    (`kinds[j]` = (is timer `j` a legacy timer?, its constructor); `idAt j` = the id of timer `j` once it has one.) -/
theorem ids_unique_mixed (counter : Nat) (kinds : List (Bool × Kind)) (steps : List (MAct × Nat))
    (hb : counter + steps.length < 18446744073709551616) :
    (∀ i j x, (mfinal (mkMWorld counter kinds) steps).idAt i = some x →
              (mfinal (mkMWorld counter kinds) steps).idAt j = some x → i = j) ∧
    (∀ j x, (mfinal (mkMWorld counter kinds) steps).idAt j = some x →
            x < (mfinal (mkMWorld counter kinds) steps).lw.counter) := by
  have h := minv_ids _ (minv_mfinal steps _ (minv_init counter kinds) hb)
  exact ⟨h.2, h.1⟩

/-! ### one timer, every interleaving -/

/-- At most one outcome, counted directly on the model: over any run the events reported number at most one. -/
theorem at_most_one_outcome (k : Kind) (id : Nat) (acts : List (Act × Bool)) :
    ((trace (fresh k id) acts).flatMap fun x => x.2.2.events).length ≤ 1 :=
  trace_budget acts (fresh k id)

/-- … and as a clause of the specification (no outcome after an outcome, never two in one step). -/
theorem at_most_one_outcome_clause (k : Kind) (id : Nat) (acts : List (Act × Bool)) :
    holdsAlong (fun m _ e => oneOutcome m e) k id {} (entries (fresh k id) acts) = true :=
  clause_holds "second-outcome" _ k id (by clause_mem) acts

/-- Completed is reported only if the shell answered the timer's request with the matching response before. -/
theorem completed_only_if_answered (k : Kind) (id : Nat) (acts : List (Act × Bool)) :
    holdsAlong (fun _ md e => completedOnlyIfAnswered id md e) k id {} (entries (fresh k id) acts) = true :=
  clause_holds "completed-unanswered" _ k id (by clause_mem) acts

/-- Cleared is reported only if the app called `clear` on the handle before. -/
theorem cleared_only_if_cleared (k : Kind) (id : Nat) (acts : List (Act × Bool)) :
    holdsAlong (fun _ md e => clearedOnlyIfCleared md e) k id {} (entries (fresh k id) acts) = true :=
  clause_holds "cleared-without-clear" _ k id (by clause_mem) acts

/-- A timer cleared before its request was ever sent sends nothing, in any continuation (specification clause). -/
theorem clear_before_start_silent (k : Kind) (id : Nat) (acts : List (Act × Bool)) :
    holdsAlong (fun _ md e => earlyClearSilent md e) k id {} (entries (fresh k id) acts) = true :=
  clause_holds "early-clear-not-silent" _ k id (by clause_mem) acts

/-- The same, directly on the model: `clear` before the command ever ran ⇒ no effect in any continuation. -/
theorem clear_before_start_silent_direct (k : Kind) (id : Nat) (acts : List (Act × Bool)) :
    ∀ x ∈ trace (fresh k id) ((.clear, false) :: acts), x.2.2.effects = [] := by
  intro x hx
  simp only [trace, List.mem_cons] at hx
  rcases hx with rfl | hx
  · rfl
  · exact earlyCleared_trace acts _ rfl (Or.inl rfl) x hx

/-- A timer cleared while its request is pending: exactly one Clear request for its id — never a second one (nor a
    second timer request), it is sent at the next run unless an answer is waiting, and once the Clear request is
    answered cleared is reported at the next run. -/
theorem clear_while_pending_one_clear (k : Kind) (id : Nat) (acts : List (Act × Bool)) :
    holdsAlong (fun m _ e => oneClear k id m e) k id {} (entries (fresh k id) acts) = true ∧
    holdsAlong (fun _ md e => clearSentWhenDue id md e) k id {} (entries (fresh k id) acts) = true ∧
    holdsAlong (fun _ md e => clearedReported md e) k id {} (entries (fresh k id) acts) = true :=
  ⟨clause_holds "request-or-clear-twice" _ k id (by clause_mem) acts,
   clause_holds "clear-not-sent" _ k id (by clause_mem) acts,
   clause_holds "cleared-not-reported" _ k id (by clause_mem) acts⟩

/-- If the shell's matching answer is waiting when the timer next runs, completed is reported and no Clear is sent —
    whatever happened to the handle in between (biased select). -/
theorem answer_wins_if_waiting (k : Kind) (id : Nat) (acts : List (Act × Bool)) :
    holdsAlong (fun _ md e => answerWins id md e) k id {} (entries (fresh k id) acts) = true :=
  clause_holds "answer-waiting-not-reported" _ k id (by clause_mem) acts

/-- Dropping the handle never cancels: a Clear request is sent only if the app called `clear` (specification clause;
    together with `cleared_only_if_cleared` and `answer_wins_if_waiting`). -/
theorem drop_handle_no_cancel (k : Kind) (id : Nat) (acts : List (Act × Bool)) :
    holdsAlong (fun _ md e => clearOnlyIfAppCleared id md e) k id {} (entries (fresh k id) acts) = true :=
  clause_holds "clear-without-app-clear" _ k id (by clause_mem) acts

/-- The same, directly on the model: once the handle is dropped no run ever sends a Clear request or reports cleared. -/
theorem drop_handle_no_cancel_direct (t : Timer) (hi : inv t = true) (hd : t.handle = .dropped)
    (acts : List (Act × Bool)) :
    ∀ x ∈ trace t acts, (∀ y ∈ x.2.2.effects, y ≠ .clear t.id) ∧ Ev.cleared ∉ x.2.2.events :=
  handleDropped_trace acts t hi hd

/-- After the outcome nothing is sent or reported any more (specification clause). -/
theorem late_ignored (k : Kind) (id : Nat) (acts : List (Act × Bool)) :
    holdsAlong (fun m _ e => lateIgnored m e) k id {} (entries (fresh k id) acts) = true :=
  clause_holds "output-after-outcome" _ k id (by clause_mem) acts

/-- The same, directly on the model: from a state in which the outcome has been reported, clears, answers, drops
    and polls in any order and number produce neither effects nor events. -/
theorem late_ignored_direct (t : Timer) (h : t.ctl = .completed ∨ t.ctl = .cleared) (acts : List (Act × Bool)) :
    ∀ x ∈ trace t acts, x.2.2.effects = [] ∧ x.2.2.events = [] :=
  reported_trace acts t h

/-- The first run sends the timer's request (unless it was cleared before); nothing becomes visible unless the command
    ran; the task never panics unless a wrong response was delivered; everything sent carries the timer's own id. -/
theorem request_sent_quiet_no_panic_own_ids (k : Kind) (id : Nat) (acts : List (Act × Bool)) :
    holdsAlong (fun m md e => requestSentWhenDue k id m md e) k id {} (entries (fresh k id) acts) = true ∧
    holdsAlong (fun _ _ e => quietUnlessRan e) k id {} (entries (fresh k id) acts) = true ∧
    holdsAlong (fun _ _ e => noPanic e) k id {} (entries (fresh k id) acts) = true ∧
    holdsAlong (fun _ _ e => ownIds k id e) k id {} (entries (fresh k id) acts) = true :=
  ⟨clause_holds "request-not-sent" _ k id (by clause_mem) acts,
   clause_holds "output-without-run" _ k id (by clause_mem) acts,
   clause_holds "unexpected-panic" _ k id (by clause_mem) acts,
   clause_holds "foreign-id" _ k id (by clause_mem) acts⟩

/-- The monitor accepts every run of a fresh timer. -/
theorem one_timer_sound (k : Kind) (id : Nat) (acts : List (Act × Bool)) :
    verdict1 k id {} (entries (fresh k id) acts) = none :=
  verdict1_entries acts {} (fresh k id) (inv_init k id) (R_init k id)

/-! ### several timers -/

/-- What the specification attributes to timer `j` of a joint run (either host) is a run of timer `j` alone, over
    the action list `actsFor host j t steps`. -/
theorem timers_independent (host : Host) (j : Nat) (steps : List (CAct × Nat)) (ts : List Timer) (t : Timer)
    (hj : ts[j]? = some t) (hi : inv t = true) :
    project host j t.launched (steps.zip (wrun host ts steps)) = entries t (actsFor host j t steps) :=
  project_wrun host j steps ts t hj hi

/-- With every Command driven directly that action list depends on no timer's state: a step addressed to another timer
    is `(tick, not run)` for `j`, which does nothing to it. -/
theorem timers_independent_cmd (j : Nat) (steps : List (CAct × Nat)) (t : Timer) :
    actsFor .cmd j t steps = steps.map (fun s =>
      if j == s.2 then (match s.1 with | .poll => (Act.tick, true) | .act a => (a, false)) else (Act.tick, false))
    ∧ ∀ u : Timer, (step u .tick false).1 = u :=
  ⟨actsFor_cmd j steps t, step_tick_noop⟩

/-- **Soundness (command API, both hosts, any number of timers, every case).**  The specification accepts what the
    model shows. -/
theorem C18_command_sound (host : Host) (kinds : List Kind) (ids : List Nat) (steps : List (CAct × Nat)) :
    verdict host ((mkTimers kinds ids).map fun t => (t.kind, t.id)) steps true
      (wrun host (mkTimers kinds ids) steps) = none := by
  apply verdict_wrun
  intro t ht
  simp only [mkTimers, List.mem_map] at ht
  obtain ⟨⟨k, id⟩, _, rfl⟩ := ht
  exact ⟨k, id, rfl⟩

/-! ### legacy capability API (`caps.time.notify_after / notify_at / clear`)

One legacy timer is run by `ltrace1 newId t inSet acts`: `lstep1` per action, with `inSet` tracking whether the
timer's id is in CLEARED_TIMER_IDS and `newId` the id it gets when started.  `lverdict1 strict k id {}` is the legacy
monitor; `strict = true` is the oracle, `strict = false` leaves out exactly the clause "a clear of a timer that is not
pending sends nothing". -/

/-- **Full statement for the legacy API**: the oracle accepts every joint history of legacy timers (any number of
    timers sharing the id counter and CLEARED_TIMER_IDS; `ids` are the ids the timers end up with). -/
def C18_legacy_full : Prop :=
  ∀ (counter : Nat) (kinds : List Kind) (steps : List (LAct × Nat)),
    counter + steps.length < 18446744073709551616 →
    lverdict true kinds ((lfinal (mkLWorld counter kinds) steps).timers.map (·.id)) steps true
      (lrun (mkLWorld counter kinds) steps) = none

/-- It is false on the unchanged code: a timer started and cleared in the same `update` — the shell never saw it — still
    makes `clear` send `Clear{id}` (lib.rs:151-163 notifies unconditionally).  Reproduced against the real code by the
    corpus case `legacy A S0` (known finding `legacy-clear-always-notifies`). -/
theorem C18_legacy_full_false : ¬ C18_legacy_full := by
  intro h
  have := h 1 [.after] [(.startClear, 0)] (by decide)
  revert this
  decide

/-- the witness, spelled out: the model shows `Clear{1}` and `Cleared{1}`, the oracle names the clause -/
theorem legacy_clear_before_start_not_silent :
    lrun (mkLWorld 1 [.after]) [(.startClear, 0)] = [{ effects := [.clear 1], events := [.got (.cleared 1)] }] ∧
    lverdict true [.after] [some 1] [(.startClear, 0)] true (lrun (mkLWorld 1 [.after]) [(.startClear, 0)])
      = some "legacy-clear-always-notifies" := by
  decide

/-- **Partial statement**: every other clause holds for every joint history of legacy timers — at most one outcome, a
    non-cleared outcome only if the shell answered (and then exactly its answer), cleared only if the app cleared it
    and then reported when the shell next answers, a clear while pending sends exactly one `Clear{id}` for its id,
    everything carries the timer's own id, nothing shows up in steps that do not run the timer, timers do not
    interfere through the shared set.  `lverdict false` is the oracle without exactly the clause "a clear of a timer
    that is not pending sends nothing". -/
theorem C18_legacy_partial (counter : Nat) (kinds : List Kind) (steps : List (LAct × Nat))
    (hb : counter + steps.length < 18446744073709551616) :
    lverdict false kinds ((lfinal (mkLWorld counter kinds) steps).timers.map (·.id)) steps true
      (lrun (mkLWorld counter kinds) steps) = none :=
  lverdict_lrun counter kinds steps hb

/-- Legacy timers also get pairwise distinct ids, below the counter, and CLEARED_TIMER_IDS holds the id of a pending
    timer exactly when `clear` was called for it — in every reachable joint state. -/
theorem legacy_ids_unique (counter : Nat) (kinds : List Kind) (steps : List (LAct × Nat))
    (hb : counter + steps.length < 18446744073709551616) :
    WInv (lfinal (mkLWorld counter kinds) steps) :=
  winv_lfinal steps _ (winv_init counter kinds) hb

/-- a legacy timer before it is started -/
abbrev lfresh (k : Kind) : LTimer := { kind := k }

/-- One legacy timer with the membership of its id tracked as a flag (`ltrace1`): the partial statement again, for
    every action list, without any assumption on the counter. -/
theorem legacy_one_timer_partial (k : Kind) (newId : Nat) (acts : List LAct) :
    lverdict1 false k (lfinal1 newId (lfresh k) false acts).id {} (ltrace1 newId (lfresh k) false acts) = none :=
  lverdict1_ltrace1 newId acts (lfresh k) false {} (linv_fresh k) (LR_fresh k) (by intro _; rfl)

/-- A legacy timer cleared while pending reports `Cleared{id}` when the shell next answers its request, whatever the
    answer (`TimerFuture` looks at the cleared set first) — and `clear` itself wakes nobody, so nothing is reported
    before that. -/
theorem legacy_cleared_reports (k : Kind) (id newId : Nat) (rq : Req) (n : Nat) (s : Shape)
    (hheld : rq.shell = .held) (hans : rq.answer = none) :
    (lstep1 { kind := k, id := some id, req := rq, clears := n + 1 } true newId (.resolveReq s)).2.1.events
      = [.got (.cleared id)] ∧
    (lstep1 { kind := k, id := some id, req := rq, clears := n } false newId .clear).2.1.events = [] := by
  rcases rq with ⟨rs, ra⟩
  simp only at hheld hans
  subst hheld hans
  simp [lstep1, Req.resolve]

/-! ### both APIs in one app (host `mixed`) -/

/-- **Full statement for one app using both APIs**: the oracle (ids unique across the APIs is checked on the
    observation; per timer the command-API monitor or the legacy monitor) accepts every mixed history. -/
def C18_mixed_full : Prop :=
  ∀ (counter : Nat) (kinds : List (Bool × Kind)) (steps : List (MAct × Nat)),
    counter + steps.length < 18446744073709551616 →
    mverdict true kinds ((List.range kinds.length).map (mfinal (mkMWorld counter kinds) steps).idAt) steps true
      (mrun (mkMWorld counter kinds) steps) = none

/-- False for the same reason as `C18_legacy_full` (the legacy `clear` notifies unconditionally). -/
theorem C18_mixed_full_false : ¬ C18_mixed_full := by
  intro h
  have := h 1 [(true, .after)] [(.startClear, 0)] (by decide)
  revert this
  decide

/-- **Partial statement**: without exactly that legacy clause the oracle accepts every history of one app that starts
    timers through both APIs in any order — every command-API timer satisfies every clause of the command monitor (its
    entries are a run of the fresh timer with the id the shared counter gives it), every legacy timer every other
    clause of the legacy monitor, and no timer shows anything in a step that does not concern it. -/
theorem C18_mixed_partial (counter : Nat) (kinds : List (Bool × Kind)) (steps : List (MAct × Nat))
    (hb : counter + steps.length < 18446744073709551616) :
    mverdict false kinds ((List.range kinds.length).map (mfinal (mkMWorld counter kinds) steps).idAt) steps true
      (mrun (mkMWorld counter kinds) steps) = none :=
  mverdict_mrun counter kinds steps hb

/-! ### non-vacuity (tests by evaluation) -/

/-- the canonical clear: request, clear, Clear request, its answer, cleared -/
example : (entries (fresh .after 1) [(.tick, true), (.clear, false), (.tick, true), (.resolveClr (.cleared 1), false),
    (.tick, true)]).map (fun e => (e.effects, e.events)) =
    [([.notify .after 1], []), ([], []), ([.clear 1], []), ([], []), ([], [.cleared])] := by decide
/-- answer and clear both before the next run: completed, no Clear -/
example : (entries (fresh .at 7) [(.tick, true), (.clear, false), (.resolveReq (.arrived 7), false), (.tick, true)]).map
    (fun e => (e.effects, e.events)) = [([.notify .at 7], []), ([], []), ([], []), ([], [.completed 7])] := by decide
/-- the monitor rejects: a Clear although the answer was waiting; a Clear after dropping the handle; a second outcome -/
example : verdict1 .after 1 {} [⟨.tick, true, .unit, [.notify .after 1], []⟩, ⟨.clear, false, .unit, [], []⟩,
    ⟨.resolveReq (.elapsed 1), false, .ok, [], []⟩, ⟨.tick, true, .unit, [.clear 1], []⟩]
    = some "answer-waiting-not-reported" := by decide
example : verdict1 .after 1 {} [⟨.tick, true, .unit, [.notify .after 1], []⟩, ⟨.dropHandle, false, .unit, [], []⟩,
    ⟨.tick, true, .unit, [.clear 1], []⟩] = some "clear-without-app-clear" := by decide
example : verdict1 .after 1 {} [⟨.tick, true, .unit, [.notify .after 1], []⟩, ⟨.resolveReq (.elapsed 1), false, .ok, [], []⟩,
    ⟨.tick, true, .unit, [], [.completed 1]⟩, ⟨.tick, true, .unit, [], [.completed 1]⟩]
    = some "output-after-outcome" := by decide
example : verdict1 .after 1 {} [⟨.clear, false, .unit, [], []⟩, ⟨.tick, true, .unit, [.notify .after 1], []⟩]
    = some "early-clear-not-silent" := by decide

/-- legacy: clear while pending, then the shell fires: Cleared is reported, the answer is dropped -/
example : (ltrace1 5 (lfresh .at) false [.start, .clear, .resolveReq .good]).map (fun e => (e.effects, e.events)) =
    [([.notify .at 5], []), ([.clear 5], []), ([], [.got (.cleared 5)])] := by decide
/-- the strict legacy monitor accepts a disciplined history and rejects a clear after the outcome -/
example : lverdict1 true .at (some 5) {} (ltrace1 5 (lfresh .at) false [.start, .clear, .resolveReq .good]) = none := by
  decide
example : lverdict1 true .at (some 5) {} (ltrace1 5 (lfresh .at) false [.start, .resolveReq .good, .clear])
    = some "legacy-clear-always-notifies" := by decide

/-- mixed: a legacy and a command-API timer started one after the other get consecutive ids from the one counter -/
example : (List.range 2).map (mfinal (mkMWorld 7 [(true, .after), (false, .at)]) [(.start, 0), (.start, 1)]).idAt
    = [some 7, some 8] := by decide
/-- the oracle rejects an observation whose ids were not unique, whatever else it shows -/
example : mverdict true [(true, .after), (false, .at)] [some 1, some 1] [] false [] = some "id-not-unique" := by decide

end Props.C18
