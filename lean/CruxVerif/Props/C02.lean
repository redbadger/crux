/-
C02 — a response reaches exactly the task that asked, with the declared arity.
Model: core/resolve.rs (`resolveReq`), context.rs request channels (leaves), request_serde.rs (`M.Bridge.resume`).
-/
import CruxVerif.Lemmas.Resolve
import CruxVerif.Lemmas.Bridge
import CruxVerif.Lemmas.Deliver
import CruxVerif.Lemmas.K2
import CruxVerif.Lemmas.Refs
import CruxVerif.Lemmas.OwnExec
import CruxVerif.Lemmas.GRun
import CruxVerif.Lemmas.GCore
namespace Props.C02
open M.Rt

/-- a notification accepts no resolution, and nothing happens -/
theorem never_rejected (v : Val) (w : World) : resolveReq .never v w = (.never, .never, w) := resolve_never v w

/-- a one-shot request accepts one resolution and is `Never` afterwards -/
theorem once_accepts_one (l : Nat) (v : Val) (w : World) :
    (resolveReq (.once l) v w).1 = .never ∧ (resolveReq (.once l) v w).2.1 = .ok := resolve_once_consumes l v w

/-- a second resolution is rejected with an error and has no effect -/
theorem once_second_rejected (l : Nat) (v v' : Val) (w : World) :
    let (r, _, w1) := resolveReq (.once l) v w
    resolveReq r v' w1 = (.never, .never, w1) := resolve_once_second_rejected l v v' w

/-- a stream request accepts a resolution iff its consumer still exists; a rejected one delivers nothing -/
theorem many_until_consumer_gone (l : Nat) (v : Val) (w : World) :
    ((resolveReq (.many l) v w).2.1 = .ok ↔ (w.leaf l).receiverAlive = true) ∧
    ((w.leaf l).receiverAlive = false → resolveReq (.many l) v w = (.many l, .finished, w)) := resolve_many_iff l v w

/-- an accepted resolution appends exactly the value, unchanged, to the issuing request's own channel (in order) -/
theorem delivered_unchanged_in_order (l : Nat) (v : Val) (w : World) (hl : l < w.leaves.length)
    (h : (w.leaf l).receiverAlive = true) :
    ((resolveReq (.many l) v w).2.2.leaf l).queue = (w.leaf l).queue ++ [v] ∧
    ((resolveReq (.once l) v w).2.2.leaf l).queue = (w.leaf l).queue ++ [v] :=
  ⟨(resolve_many_appends l v w hl h).2, resolve_once_delivers l v w hl h⟩

/-- each request owns a private channel: the leaf allocated for a new request differs from every existing leaf, and
    existing leaves are untouched by the allocation -/
theorem delivery_channel_private (w : World) (wk : Option Waker) (legacy : Bool) :
    (w.newLeaf wk legacy).1 = w.leaves.length ∧ (w.newLeaf wk legacy).2.leaves.length = w.leaves.length + 1 ∧
    ∀ l, l < w.leaves.length → (w.newLeaf wk legacy).2.leaves[l]? = w.leaves[l]? := newLeaf_fresh w wk legacy

/-- the serialized path resolves exactly the stored resolve with the decoded value -/
theorem serialized_agrees (reg : M.Slab Resolve) (id : Nat) (v : Val) (w : World) (r : Resolve)
    (hg : reg.get? id = some r) :
    (M.Bridge.resume reg id (some v) w).2.2 = (resolveReq r v w).2.2 ∧
    ((M.Bridge.resume reg id (some v) w).1 = .ok ↔ (resolveReq r v w).2.1 = .ok) :=
  M.Bridge.resume_exact reg id v w r hg

/-- END TO END, one request: a task block that a poll with waker `wk` left suspended at the one-shot request of leaf `l`
    (`ParkedB`, which every poll of a host-free block establishes — `Props.C07.poll_parks`) and whose consumer is alive:
    resolving that request with `v` is accepted, puts exactly `v` into that request's own channel, leaves EVERY other request's
    channel as it was, wakes exactly the asking task's waker, and the task's next poll (under any waker) continues with `v`
    bound to the request's variable. -/
theorem response_reaches_exactly_the_asker (pn : Waker → Nat → World → Option (NextRes × World)) (f : Nat) (wk wk2 : Waker)
    (sink : Sink) (env : Env) (x l : Nat) (rest : List Instr) (w : World) (v : Val)
    (hpark : ParkedB wk w (.mk env (.req x l) rest)) (halive : (w.leaf l).receiverAlive = true)
    (hempty : (w.leaf l).queue = []) :
    let w' := (resolveReq (.once l) v w).2.2
    (resolveReq (.once l) v w).2.1 = .ok ∧
    (w'.leaf l).queue = [v] ∧
    (∀ l', l ≠ l' → w'.leaf l' = w.leaf l') ∧
    wokenBy wk w' ∧
    pollBlock pn (f + 1) wk2 sink (.mk env (.req x l) rest) w' =
      pollBlock pn f wk2 sink (.mk (env.set x v) .idle rest) (w'.dropReceiver l) := by
  simp only [ParkedB, ParkedP] at hpark
  obtain ⟨hl, hwk⟩ := hpark
  have hq : ((resolveReq (.once l) v w).2.2.leaf l).queue = [v] := by
    rw [resolve_once_delivers l v w hl halive, hempty]; rfl
  refine ⟨(resolve_once_consumes l v w).2, hq, ?_, ?_, ?_⟩
  · intro l' hne; exact resolve_other_leaves (.once l) l (Or.inl rfl) v w l' hne
  · exact resolve_wakes_asker (.once l) l (Or.inl rfl) v w wk hwk halive
  · exact poll_binds_value pn f wk2 sink env x l rest _ v [] hq

/-- the same for a stream item: accepted while the consumer is alive, appended in order to that stream's own channel, no
    other channel touched, the consumer's waker woken -/
theorem stream_item_reaches_exactly_the_consumer (wk : Waker) (env : Env) (x l count limit : Nat) (body rest : List Instr)
    (w : World) (v : Val) (hpark : ParkedB wk w (.mk env (.streamWait x l count limit body) rest))
    (halive : (w.leaf l).receiverAlive = true) :
    let w' := (resolveReq (.many l) v w).2.2
    (resolveReq (.many l) v w).2.1 = .ok ∧
    (w'.leaf l).queue = (w.leaf l).queue ++ [v] ∧
    (∀ l', l ≠ l' → w'.leaf l' = w.leaf l') ∧
    wokenBy wk w' := by
  simp only [ParkedB, ParkedP] at hpark
  obtain ⟨hl, hwk⟩ := hpark
  refine ⟨(resolve_many_iff l v w).1.mpr halive, (resolve_many_appends l v w hl halive).2, ?_, ?_⟩
  · intro l' hne; exact resolve_other_leaves (.many l) l (Or.inr rfl) v w l' hne
  · exact resolve_wakes_asker (.many l) l (Or.inr rfl) v w wk hwk halive

/-- the consumer's next poll takes exactly the oldest undelivered item and leaves the rest queued, in order -/
theorem stream_items_consumed_in_order (pn : Waker → Nat → World → Option (NextRes × World)) (f : Nat) (wk : Waker)
    (sink : Sink) (env : Env) (x l count limit : Nat) (body rest : List Instr) (w : World) (v : Val) (q : List Val)
    (hq : (w.leaf l).queue = v :: q) (hlim : ¬ (limit > 0 ∧ count ≥ limit)) :
    pollBlock pn (f + 1) wk sink (.mk env (.streamWait x l count limit body) rest) w =
      pollBlock pn f wk sink (.mk env (.streamBody x l count limit body (.mk (env.set x v) .idle body)) rest)
        (w.modLeaf l fun lf => { lf with queue := q }) :=
  poll_stream_binds_value pn f wk sink env x l count limit body rest w v q hq hlim

/-- NO ALIASING, one poll: if before a poll of a host-free block every request channel is referenced at most once by the
    block and the tasks waiting in its spawn queue (and none of them mentions a channel that does not exist yet), then the
    same holds afterwards for the continuation and the spawn queue — including the requests created and the tasks spawned
    during the poll (`handoff` gives a new request to exactly one new task). Any fuel, any world. -/
theorem poll_keeps_channels_unshared (pn : Waker → Nat → World → Option (NextRes × World)) (f : Nat) (wk : Waker)
    (sink : Sink) (b : Block) (w : World) (r : PollRes) (w' : World)
    (h : pollBlock pn f wk sink b w = some (r, w')) (hf : hostFreeB b = true)
    (hone : ∀ l, (refsB b).count l + (spawnRefs sink w).count l ≤ 1)
    (hex : ∀ l, w.leaves.length ≤ l → (refsB b).count l + (spawnRefs sink w).count l = 0) :
    ∀ l, (resRefs r).count l + (spawnRefs sink w').count l ≤ 1 := by
  intro l
  have hle := (pollBlock_linear pn f wk sink b w r w' h hf).cnt l
  unfold fresh at hle
  by_cases hl : w.leaves.length ≤ l
  · have := hex l hl
    split at hle <;> omega
  · have := hone l
    have : ¬ (w.leaves.length ≤ l ∧ l < w'.leaves.length) := fun c => hl c.1
    simp only [this, if_false] at hle
    omega

/-- … and a poll never makes a task (or a task it spawns) wait on an EXISTING request it did not already wait on: a channel
    of another task stays the other task's alone. -/
theorem poll_never_adopts_foreign_channel (pn : Waker → Nat → World → Option (NextRes × World)) (f : Nat) (wk : Waker)
    (sink : Sink) (b : Block) (w : World) (r : PollRes) (w' : World)
    (h : pollBlock pn f wk sink b w = some (r, w')) (hf : hostFreeB b = true) (l : Nat) (hl : l < w.leaves.length)
    (hnot : l ∉ refsB b) (hnots : l ∉ spawnRefs sink w) : l ∉ resRefs r ∧ l ∉ spawnRefs sink w' := by
  have hle := (pollBlock_linear pn f wk sink b w r w' h hf).cnt l
  have h1 : (refsB b).count l = 0 := List.count_eq_zero_of_not_mem hnot
  have h2 : (spawnRefs sink w).count l = 0 := List.count_eq_zero_of_not_mem hnots
  have h3 : fresh w w' l = 0 := by unfold fresh; rw [if_neg]; intro c; omega
  rw [h1, h2, h3] at hle
  constructor
  · intro hm; have := List.count_pos_iff.mpr hm; omega
  · intro hm; have := List.count_pos_iff.mpr hm; omega

/-- OVER WHOLE RUNS (`…_partial`: task programs without combinators, held directly by a test; the full statement also
    covers commands nested by `then / and / all / map_*` and the Core and Bridge hosts): for EVERY host-free task program —
    any number of spawned tasks, `join!`, `select!`, streams, hand-offs, self-aborts — and EVERY history of resolutions,
    drops, aborts and polls, in the world reached
    (1) every request channel is referenced by AT MOST ONE suspended or queued task of the command — so a value resolved on a
        request can be received by the task that waits on that request and by no other (with `response_reaches_exactly_the_asker`);
    (2) no task references a channel that does not exist; every stored task is host-free (so K2 / `poll_parks` applies to it).
    Global invariant `Own`, Lemmas/Own*.lean + TasksFrame + SlabSum (≈800 lines): run_task (poll, then store / remove the
    entry), spawning, finishing, aborting, settling, the shell's operations. -/
theorem channels_unshared_over_runs_partial (is : List Instr) (hf : hostFreeIs is = true) (canon : Bool)
    (acts : List M.Hosts.Action) (os : List M.Hosts.Obs) (d : M.Hosts.Direct)
    (h : M.Hosts.runDirect (.task is) canon acts = some (os, d)) :
    (∀ l, cmdCnt l (d.w.cmd d.cid) ≤ 1) ∧ (∀ l, d.w.leaves.length ≤ l → cmdCnt l (d.w.cmd d.cid) = 0) ∧
    (∀ t ∈ (d.w.cmd d.cid).tasks.values, hostFreeB t.fut = true) :=
  let o := M.Hosts.runDirect_own is hf canon acts os d h
  ⟨o.one, o.rng, o.hft⟩

/-- non-vacuity (kernel-evaluated; longer histories exhaust the kernel's memory on the fuel-driven loops and are exercised
    by the correspondence check instead): a run exists, and its suspended task holds the one reference to channel 0 -/
example : ∃ os d, M.Hosts.runDirect (.task [.req 1 1 (.lit 0)]) false [] = some (os, d) ∧ cmdCnt 0 (d.w.cmd d.cid) = 1 := by
  refine ⟨_, _, rfl, ?_⟩
  decide

/-- OVER WHOLE RUNS, EVERY COMMAND: for every command whose task bodies are host-free — any nesting of `then`, `and`, `all`,
    `map_effect`, `map_event`, `abortable`, builder chains, tasks with `spawn`, `join!`, `select!`, streams, hand-offs,
    self-aborts — held directly by a test, and EVERY history of resolutions, drops, aborts and polls, in the world reached,
    summed over ALL commands of the world (the command itself, every command it hosts at any depth, their task slabs and
    their spawn queues):
    (1) every request channel is referenced by AT MOST ONE suspended or queued task — in particular no task of a sibling or
        hosted command can wait on, and so receive, the response to a request another task issued;
    (2) no task references a channel that does not exist.
    Global invariant `GOwn` = hosting order `HL` (C06, Lemmas/HostLt*.lean) + the measure `G l w = Σ_cmds cmdCnt l` bounded
    by `bnd` (Lemmas/GDefs, GPoll, GExec, GRun ≈ 750 lines): the hosting order makes `drop` of a hosted command decrease the measure of
    smaller-indexed commands only, which is what lets the poll of a host be accounted for while its own entry is out of
    the slab. -/
theorem channels_unshared_over_runs (c : Cmd) (hc : cmdHF c = true) (canon : Bool)
    (acts : List M.Hosts.Action) (os : List M.Hosts.Obs) (d : M.Hosts.Direct)
    (h : M.Hosts.runDirect c canon acts = some (os, d)) :
    (∀ l, (d.w.cmds.map (cmdCnt l)).sum ≤ 1) ∧
    (∀ l, d.w.leaves.length ≤ l → (d.w.cmds.map (cmdCnt l)).sum = 0) := by
  have o := M.Hosts.runDirect_gown c hc canon acts os d h
  constructor
  · intro l
    have := o.bound l
    unfold bnd at this; unfold G at this
    split at this <;> omega
  · intro l hl
    have := o.bound l
    unfold bnd at this; unfold G at this
    rw [if_neg (by omega)] at this
    omega

/-- … so two DIFFERENT commands of a reachable world never both reference one channel (a hosted command and its host, two
    siblings under `and` / `all`, …). -/
theorem commands_never_share_a_channel (c : Cmd) (hc : cmdHF c = true) (canon : Bool)
    (acts : List M.Hosts.Action) (os : List M.Hosts.Obs) (d : M.Hosts.Direct)
    (h : M.Hosts.runDirect c canon acts = some (os, d)) (i j : Nat) (hij : i < j) (hj : j < d.w.cmds.length) (l : Nat) :
    cmdCnt l (d.w.cmd i) + cmdCnt l (d.w.cmd j) ≤ 1 :=
  Nat.le_trans (cmdCnt2_le_G l d.w i j (Nat.ne_of_lt hij)) ((channels_unshared_over_runs c hc canon acts os d h).1 l)

/-- non-vacuity for a nested command (kernel-evaluated; `and` / `all` of requests exhaust the kernel's memory on the
    fuel-driven loops and are exercised by the correspondence check instead): a mapped request — the world reached holds
    two commands (the host and the hosted one) and channel 0 is referenced exactly once over both -/
example : ∃ os d, M.Hosts.runDirect (.mapEv 0 (.req 1 (.lit 0) 1)) false [] = some (os, d) ∧
    cmdHF (.mapEv 0 (.req 1 (.lit 0) 1)) = true ∧ (d.w.cmds.map (cmdCnt 0)).sum = 1 ∧ d.w.cmds.length = 2 := by
  refine ⟨_, _, rfl, rfl, ?_, ?_⟩ <;> decide

/-- UNDER THE CORE HOST: for every app whose commands have host-free task bodies (any nesting of combinators) and whose legacy
    capability tasks are host-free, after EVERY history of events, resolutions, drops, aborts and probes, every request
    channel is referenced by AT MOST ONE suspended or queued task — summed over all commands of the world (at any hosting
    depth, slabs and spawn queues), the QueuingExecutor's legacy tasks and its spawn queue — and no task references a
    channel that does not exist. Invariant `CInv` (Lemmas/XFrame, CoreFrame, GCore ≈ 550 lines): the executor's
    run_all / run_task, the CommandSpawner loop, `update` + spawn, the event loop, resolve / drop / abort from the shell. -/
theorem channels_unshared_under_core (prog : M.Hosts.Prog) (hp : progHF prog) (canon : Bool) (acts : List M.Hosts.Action)
    (os : List M.Hosts.Obs) (h : M.Hosts.CoreHost) (hr : M.Hosts.runCore prog canon acts = some (os, h)) (l : Nat) :
    (h.k.w.cmds.map (cmdCnt l)).sum + ecnt l h.k.execTasks.values + ecnt l h.k.w.execSpawn
      ≤ (if l < h.k.w.leaves.length then 1 else 0) :=
  (M.Hosts.runCore_c prog hp canon acts os h hr).unshared l

/-- non-vacuity: an app satisfying `progHF` with a nested command and a legacy task -/
example : progHF [(1, .andC (.req 1 (.lit 0) 1) (.mapEv 0 (.req 2 (.lit 0) 2)), [[.req 1 3 (.lit 0)]])] := by
  intro p hp
  simp only [List.mem_singleton] at hp
  subst hp
  exact ⟨rfl, by intro is his; simp only [List.mem_singleton] at his; subst his; rfl⟩

/-! Not proved here: the same invariant for the Bridge host (the bridge's registry around the same Core); covered by the
    correspondence check (unique payloads, look-alike operations). -/

example : (resolveReq (.once 0) 5 { leaves := [{}] }).2.1 = .ok := by decide
example : (resolveReq (.many 0) 5 { leaves := [{ receiverAlive := false }] }).2.1 = .finished := by decide

end Props.C02
