/-
C20 — the CLI's type registry is a pure, closed function of the crate description.

`M.Codegen` has two stages, as the code has (crux_cli/src/codegen/mod.rs:74-113): the *filter* (which items are
reachable: an edge relation per loaded crate, `Crate.edges`; which crates get loaded, `load`) and the *formatter*
(`containers`: edge relation ↦ the `container` relation the registry is collected from, `lookup` = the BTreeMap view).
All theorems are unbounded: any description, any edge relation, any renumbering, any order.

Formatter stage, for an ARBITRARY edge relation `E` (any list of pairs of nodes whatsoever):
  * `variant_indices`, `variant_declaration_order` — enum keys are 0,…,n-1 in declaration order of the non-skipped variants;
  * `perm_invariant_partial`   — the registry does not depend on the order of the edge relation;
  * `renumber_invariant_fmt`   — nor on how item ids are numbered;
  * `closed_partial`           — it is closed when every referenced type name is the name of a reachable container source.
Whole pipeline (filter rules, crate loading loop, formatter), for ANY list of crate descriptions:
  * `renumber_invariant`       — FULL: renumbering the items of every crate by an injective map (ids of items, child id
                                  lists, ids inside type expressions, summary ids) leaves `registry` unchanged, exactly;
  * `crate_order_invariant`    — every completed run of the loading loop, whichever pending crate it picks at each step,
                                  loads the same crates and yields the same registry;
  * `perm_invariant_pipeline`  — listing items / summaries / external crates / available crates in another order
                                  yields the same outcome (both fail to load, both panic, or the same registry).
Full statements are kept as `def … : Prop`; where the full statement is false for the code as written the negation is
proved from a concrete witness (`…_full_false`) and the side condition of the partial theorem is a decidable check the
driver evaluates on every case (`cratesWF`, `variantsWF`, `resolvable`). The exception is `NoClash`, a `Prop` about
equality of containers: the driver evaluates `S.Codegen.noClash`, which compares their token lists, and no theorem
relates the two. What is NOT proved: fidelity of
the model to the Rust code (that is what the correspondence check on every run is for), and anything about the hash
maps of the real implementation (the oracle re-draws their iteration orders on every case).
-/
import CruxVerif.Lemmas.CodegenOrder
namespace Props.C20
open M.Codegen S.Codegen Lemmas.Codegen

/-! ## enum variant indices -/

/-- Full statement: the keys of every enum container are 0,…,n-1. -/
def variant_indices_full : Prop :=
  ∀ (E : Edges) (name : String) (vs : List (Nat × String × VFormat)),
    (name, Container.enum vs) ∈ containers E → vs.map (·.1) = List.range vs.length

/-- Proved under `variantsWF E`: what an enum's variant list resolves to are named variant items (always so in
    rustdoc output; evaluated by the driver on every case). -/
theorem variant_indices (E : Edges) (hwf : variantsWF E = true) (name : String) (vs : List (Nat × String × VFormat))
    (h : (name, Container.enum vs) ∈ containers E) : vs.map (·.1) = List.range vs.length := by
  obtain ⟨x, hx, _, rfl⟩ := mem_containers_enum h
  have hk := enumMap_keys hwf hx
  have hl : (enumMap E x).length = (orderedVariants E x).length := by
    have := congrArg List.length hk
    simpa using this
  rw [hk, hl]

/-- … and the variants appear in declaration order: the container of enum node `e` lists, in key order, exactly the
    variants the enum declares (`variantIds`) that are not `#[serde(skip)]` and have an edge from `e`, under their
    serde names. -/
theorem variant_declaration_order (E : Edges) (hwf : variantsWF E = true) (name : String)
    (vs : List (Nat × String × VFormat)) (h : (name, Container.enum vs) ∈ containers E) :
    ∃ e : Node, e ∈ E.map (·.1) ∧ e.item.serdeName = some name ∧
      ((orderedVariants E e).map (·.item.id)).Sublist e.item.variantIds ∧
      (∀ v ∈ orderedVariants E e, v.item.attrs.skip = false ∧ v ∈ variantSet E e) ∧
      (∀ v ∈ variantSet E e, ∃ w ∈ orderedVariants E e, w.item.id = v.item.id) ∧
      vs.map (·.2.1) = (orderedVariants E e).map fun v => variantName (v.item.name.getD "") v.item.attrs e.item.attrs := by
  obtain ⟨e, he, hn, rfl⟩ := mem_containers_enum h
  refine ⟨e, he, hn, orderedChildren_sublist hasVariant Item.variantIds E e, ?_, ?_, ?_⟩
  · exact fun v hv => (mem_orderedChildren hv).symm
  · intro v hv
    obtain ⟨s, _, _, hh⟩ := mem_childSet hv
    simp only [nHas, hasVariant, Bool.and_eq_true, Bool.not_eq_true', List.contains_iff_mem] at hh
    exact orderedChildren_complete hv hh.2.1 hh.2.2
  · have : (enumMap E e).map (·.2.1) = ((enumMap E e).map (·.2)).map (·.1) := by simp [List.map_map]
    rw [this, enumMap_vals, List.map_filterMap, ← List.filterMap_eq_map]
    apply filterMap_congr'
    intro v hv
    have ⟨hnm, hk⟩ := variantsWF_spec hwf he (mem_orderedChildren hv).1
    exact variantFormat_name hnm hk

/-! ## independence of the order of the edge relation -/

/-- Full statement, formatter stage: permuting the edge relation does not change the registry. -/
def perm_invariant_full : Prop :=
  ∀ (E E' : Edges), E.Perm E' → ∀ n, lookup (containers E) n = lookup (containers E') n

/-- Proved when (a) two edge targets with the same crate and id are the same node (`Functional`; follows from ids being
    unique per crate, `cratesWF`), and (b) no two containers of different shape compete for one name (`NoClash`; the
    driver evaluates the Boolean `noClash` on every case).  Without (b) the CLI's own `BTreeMap::from_iter` keeps whichever the ascent
    run derived last. -/
theorem perm_invariant_partial (E E' : Edges) (h : E.Perm E') (hf : Functional E) (hc : NoClash (containers E)) (n : String) :
    lookup (containers E) n = lookup (containers E') n :=
  lookup_sameSet (containers_sameSet (SameSet.of_perm h) hf) hc n

private def noAttrs : Attrs := ⟨false, [], none, none⟩
private def wA : Node := ⟨"a", ⟨0, some "A", noAttrs, .structUnit⟩⟩
private def wF : Node := ⟨"b", ⟨1, some "0", noAttrs, .field (.prim "u8")⟩⟩
private def wB : Node := ⟨"b", ⟨0, some "A", noAttrs, .structTuple [some 1]⟩⟩

/-- The full statement is false: two crates each defining a type `A` (a unit struct, a newtype of `u8`). -/
theorem perm_invariant_full_false : ¬ perm_invariant_full := by
  intro h
  have := h [(wA, wA), (wB, wF)] [(wB, wF), (wA, wA)] (List.Perm.swap _ _ _) "A"
  have h1 : (lookup (containers [(wA, wA), (wB, wF)]) "A").map Container.toks = some ["N", "u8"] := by decide
  have h2 : (lookup (containers [(wB, wF), (wA, wA)]) "A").map Container.toks = some ["U"] := by decide
  rw [this, h2] at h1
  exact absurd h1 (by decide)

/-! ## independence of the numbering of items -/

/-- Formatter stage, no side condition: renumbering the items of every crate by an injective map (ids of nodes,
    child id lists, ids inside type expressions) leaves the `container` relation unchanged, entry by entry. -/
theorem renumber_invariant_fmt (σ : String → Nat → Nat) (hσ : ∀ c, Injective (σ c)) (E : Edges) :
    containers (renEdges σ E) = containers E ∧ panics (renEdges σ E) = panics E :=
  ⟨containers_ren σ hσ E, panics_ren σ hσ E⟩

/-- FULL, whole pipeline (filter rules, crate loading, formatter): for every list of crate descriptions and every
    renumbering that is injective on each crate (applied to item ids, child id lists, ids inside type expressions and
    summary ids; crate ids are not item ids), the outcome of `run` is unchanged — the same containers in the same
    order, the same panic, the same load failure. No side condition. -/
theorem renumber_invariant (avail : List Crate) (root : String) (σ : String → Nat → Nat) (hσ : ∀ c, Injective (σ c)) :
    registry (renCrates σ avail) root = registry avail root := by
  simp only [registry, loadedEdges_ren σ hσ]
  cases loadedEdges avail root with
  | none => rfl
  | some E => simp only [Option.map_some, panics_ren σ hσ, containers_ren σ hσ]

/-! ## independence of the order of loading dependent crates, and of the order of the description's maps -/

/-- The registry of a completed run, whichever pending crate was picked at each step (`Run`), under `cratesWF` (ids
    unique per crate, crate names distinct) and absence of name clashes: same panic behaviour, same registry. -/
theorem crate_order_invariant (avail : List Crate) (root : String) (r : Crate) (hwf : cratesWF avail = true)
    (hr : lookupCrate avail root = some r) (L L' : List Crate) (h : Run avail [r] L) (h' : Run avail [r] L')
    (hc : NoClash (containers (L.flatMap nodeEdges))) :
    SameSet L L' ∧ panics (L.flatMap nodeEdges) = panics (L'.flatMap nodeEdges) ∧
      ∀ n, lookup (containers (L.flatMap nodeEdges)) n = lookup (containers (L'.flatMap nodeEdges)) n := by
  have hs : SameSet L L' := run_same hr h h'
  have hE : SameSet (L.flatMap nodeEdges) (L'.flatMap nodeEdges) := hs.flatMap fun _ => SameSet.refl _
  have hl := (run_root hr h).2.1
  exact ⟨hs, panics_sameSet hE, fun n => lookup_sameSet (containers_sameSet hE (functional_of_lookup hwf hl)) hc n⟩

/-- the model's own loop (`load`, which picks the first pending crate) is one of these runs -/
theorem load_is_a_run (avail : List Crate) (fuel : Nat) (loaded L : List Crate) (h : load avail fuel loaded = some L) :
    Run avail loaded L := load_run avail fuel loaded L h

/-- FULL (up to name clashes, which `perm_invariant_full_false` shows cannot be dropped): listing the items, summaries,
    external crates of every crate and the available crates themselves in another order (`SameAvail`: the two loaders
    hand out corresponding crates under every name) does not change the outcome of `run`: both runs fail to load, both
    panic, or both yield the same registry. Side conditions: `cratesWF` on both listings (ids unique per crate, crate
    names distinct — decidable, evaluated on every case). -/
theorem perm_invariant_pipeline (avail avail' : List Crate) (root : String) (hwf : cratesWF avail = true)
    (hwf' : cratesWF avail' = true) (hs : SameAvail avail avail') :
    match registry avail root, registry avail' root with
    | .ok r, .ok r' => NoClash r → ∀ n, lookup r n = lookup r' n
    | .panic, .panic => True
    | .errLoad, .errLoad => True
    | _, _ => False := by
  unfold registry
  cases h : loadedEdges avail root with
  | none =>
    cases h' : loadedEdges avail' root with
    | none => simp
    | some E' =>
      obtain ⟨E, hE⟩ := loadedEdges_complete hs.symm hwf' hwf h'
      rw [h] at hE; exact absurd hE (by simp)
  | some E =>
    obtain ⟨E', h'⟩ := loadedEdges_complete hs hwf hwf' h
    rw [h']
    have hE : SameSet E E' := loadedEdges_same hs hwf hwf' h h'
    have hp : panics E = panics E' := panics_sameSet hE
    simp only [hp]
    cases panics E' with
    | true => simp
    | false =>
      simp only [Bool.false_eq_true, if_false]
      exact fun hc n => lookup_sameSet (containers_sameSet hE (loadedEdges_functional hwf h)) hc n

/-- `SameAvail` holds in particular for two listings of corresponding crates with distinct names, e.g. any permutation
    of the list of available crates, each crate with its items / summaries / external crates permuted. -/
theorem sameAvail_of_permuted (avail avail' : List Crate) (hn' : (avail'.map (·.name)).Nodup)
    (h : ∀ c ∈ avail, ∃ c' ∈ avail', SameCrate c c') (h' : ∀ c' ∈ avail', ∃ c ∈ avail, SameCrate c c') :
    SameAvail avail avail' := by
  intro n
  cases h1 : lookupCrate avail n with
  | none =>
    cases h2 : lookupCrate avail' n with
    | none => trivial
    | some c' =>
      obtain ⟨c, hc, hsc⟩ := h' c' (List.mem_of_find?_eq_some h2)
      have : c.name = n := hsc.name.trans (lookupCrate_name h2)
      rw [List.find?_eq_none] at h1
      exact absurd (h1 c hc) (by simp [this])
  | some c =>
    obtain ⟨c', hc', hsc⟩ := h c (List.mem_of_find?_eq_some h1)
    have hcn : c'.name = n := hsc.name.symm.trans (lookupCrate_name h1)
    cases h2 : lookupCrate avail' n with
    | none =>
      rw [List.find?_eq_none] at h2
      exact absurd (h2 c' hc') (by simp [hcn])
    | some c'' =>
      have : c'' = c' := eq_of_nodup_map (·.name) hn' c'' (List.mem_of_find?_eq_some h2) c' hc'
        ((lookupCrate_name h2).trans hcn.symm)
      show SameCrate c c''
      rw [this]; exact hsc

/-- the order of the edge relation is immaterial for the registry `run` computes, given only `cratesWF` and no clash -/
theorem perm_invariant_registry (avail : List Crate) (root : String) (E E' : Edges) (hwf : cratesWF avail = true)
    (h : loadedEdges avail root = some E) (hp : E.Perm E') (hc : NoClash (containers E)) (n : String) :
    lookup (containers E) n = lookup (containers E') n :=
  perm_invariant_partial E E' hp (loadedEdges_functional hwf h) hc n

/-! ## closedness -/

/-- Full statement: every type name in the registry is a key of it. -/
def closed_full : Prop := ∀ E : Edges, closed (containers E) = true

/-- Proved when every type name a reachable field refers to (and `Effect`) is the serde name of a reachable struct or
    of a reachable enum with a reachable variant, `Range` or `Request` (`resolvable`, evaluated on every case). -/
theorem closed_partial (E : Edges) (h : resolvable E = true) : closed (containers E) = true := by
  simp only [closed, unresolved, List.isEmpty_iff, List.filter_eq_nil_iff, List.mem_flatMap]
  rintro tn ⟨nc, hnc, ht⟩
  simp only [resolvable, List.all_eq_true, List.contains_iff_mem] at h
  have := defined_hasKey (h tn (containers_refs hnc ht))
  simp [this]

/-- The full statement is false: already the empty edge relation yields `Request { effect: Effect }` with no `Effect`;
    a unit struct that is reachable only as the type of a field gets no container either (filter.rs:121-123). -/
theorem closed_full_false : ¬ closed_full := by
  intro h
  exact absurd (h []) (by decide)

/-! ## the specification oracle accepts the model's registry (structural clauses) -/

theorem C20_structure_sound (E : Edges) (hwf : variantsWF E = true) (hr : resolvable E = true) :
    contiguous (containers E) = true ∧ closed (containers E) = true := by
  refine ⟨?_, closed_partial E hr⟩
  simp only [contiguous, gaps, List.isEmpty_iff, List.map_eq_nil_iff, List.filter_eq_nil_iff]
  intro nc hnc
  rcases nc with ⟨n, c⟩
  cases c with
  | enum vs => simp [enumKeysOk, variant_indices E hwf n vs hnc]
  | _ => simp [enumKeysOk]

/-! ## non-vacuity (tests by evaluation) -/

private def vSkip : Node := ⟨"k", ⟨1, some "Hidden", ⟨true, [], none, none⟩, .variantPlain⟩⟩
private def vB : Node := ⟨"k", ⟨2, some "NotifyAt", noAttrs, .variantTuple [some 5]⟩⟩
private def vC : Node := ⟨"k", ⟨3, some "Clear", ⟨false, ["wipe"], none, none⟩, .variantPlain⟩⟩
private def fT : Node := ⟨"k", ⟨5, some "0", noAttrs, .field (.path "crate::TimerId" 9 .angle [])⟩⟩
private def tId : Node := ⟨"k", ⟨9, some "TimerId", noAttrs, .structTuple [some 6]⟩⟩
private def fU : Node := ⟨"k", ⟨6, some "0", noAttrs, .field (.prim "u64")⟩⟩
private def en : Node := ⟨"k", ⟨0, some "EffectFfi", ⟨false, ["Effect"], some "camelCase", none⟩, .enum [1, 2, 3]⟩⟩
/-- an enum with a skipped first variant, a renamed one and `rename_all`, reaching a newtype struct -/
private def Ex : Edges := [(en, vB), (en, vC), (vB, fT), (fT, tId), (tId, fU)]

example : variantsWF Ex = true ∧ resolvable Ex = true := by decide
example : (lookup (containers Ex) "Effect").map Container.toks
    = some ["E", "2", "0", "notifyAt", "n", "tn", "TimerId", "1", "wipe", "u"] := by decide
example : (lookup (containers Ex) "TimerId").map Container.toks = some ["N", "u64"] := by decide
example : closed (containers Ex) = true ∧ contiguous (containers Ex) = true := by decide
/-- the oracle does reject a gap, a dangling reference and a reordering -/
example : contiguous [("E", .enum [(1, "B", .unit)])] = false := by decide
example : closed [("S", .newType (.typeName "Missing"))] = false := by decide
example : S.Codegen.ok (.reg "f" "renum:1" [("A", .unit), ("B", .unit)] []) (.reg [("A", .unit)]) = false := by decide
example : rejectKey (.reg "f" "renum:1" [("A", .unit)] []) (.reg [("A", .newType (.prim "u8"))]) = "depends-on-numbering" := by decide
example : rejectKey (.proto "f" "T" (.newType (.prim "u8")) []) (.container (.newType (.prim "u16"))) = "proto-mismatch:T" := by decide

end Props.C20
