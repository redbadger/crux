/-
C13 — finished work is released.
Model: task slabs of commands and of the executor, the bridge registry (M.Slab), `finishTask`, `execRunTask`, `resume`;
the process-wide cleared-timer set of the legacy Time capability (M.Timer `LWorld.cleared`, crux_time/src/lib.rs).
-/
import CruxVerif.Lemmas.CompleteS
import CruxVerif.Lemmas.Bridge
import CruxVerif.Lemmas.RtTask
import CruxVerif.Lemmas.Resolve
import CruxVerif.Lemmas.Occ
import CruxVerif.Lemmas.Timer.ClearedSet
import CruxVerif.Lemmas.Futures
import CruxVerif.Lemmas.Acc
namespace Props.C13
open M M.Rt M.Bridge M.Slab

/-- can this registry entry still be resolved? -/
def resolvable (w : World) : Resolve → Bool
  | .once _ => true
  | .many l => (w.leaf l).receiverAlive
  | .never | .gone => false

/-- a finished or cancelled task leaves the command's slab (its slot is free for reuse) -/
theorem finished_task_slot_freed (tasks : Slab Task) (tid : Nat) (t : Task) (hg : tasks.get? tid = some t) :
    (tasks.remove tid).1 = some t ∧ (tasks.remove tid).2.get? tid = none := by
  have := remove_get tasks tid t hg
  exact ⟨this.1, this.2.1⟩

/-- a completed executor task frees its slot -/
theorem completed_exec_task_freed (etid : Nat) (k k' : Core) (h : execRunTask etid k = some (.completed, k')) :
    k'.execTasks.get? etid = none :=
  execRunTask_ind (Q := fun r k' => r = .completed → k'.execTasks.get? etid = none) (fun _ => nofun)
    (fun _ _ hg _ _ => (remove_get k.execTasks etid _ hg).2.1) (fun _ _ _ _ => nofun)
    (fun _ _ _ hg _ _ => (remove_get k.execTasks etid _ hg).2.1) (fun _ _ _ _ _ => nofun) h rfl

/-- an aborted command holds no task once it has been looked at -/
theorem aborted_command_releases_tasks (rt : Nat → Nat → World → Option (TaskState × World)) (cid : Nat) (w w' : World)
    (ha : w.aborted cid = true) (h : runUntilSettledF rt cid w = some w') : (w'.cmd cid).tasks = {} :=
  runUntilSettledF_aborted rt cid w w' ha h

/-- the bridge forgets a one-shot request (and a notification) when the response addressed to it arrives -/
theorem answered_entry_forgotten (reg : Slab Resolve) (id : Nat) (d : Option Val) (w : World) (r : Resolve)
    (hg : reg.get? id = some r) (hnm : ∀ l, r ≠ .many l) : (resume reg id d w).2.1.get? id = none :=
  resume_removes reg id d w r hg hnm

/-- FULL STATEMENT for the registry ("once a request can no longer be resolved the bridge forgets it"): registering the
    effects of a call keeps the registry free of unresolvable entries. -/
def registry_bounded_full : Prop :=
  ∀ (reg : Slab Resolve) (effs : List Eff) (w : World), WF reg →
    (∀ k r, reg.get? k = some r → resolvable w r = true) →
    (∀ k r, (registerAll reg effs).2.get? k = some r → resolvable w r = true)

/-- it is FALSE on the code as it is: a notification (`Resolve::Never`) is registered like any other effect
    (registry.rs:36-49) and nothing but a response addressed to it ever removes it — one leaked entry per `Render` -/
theorem registry_bounded_full_false : ¬ registry_bounded_full := by
  intro h
  have := h Slab.empty [⟨⟨1, 0⟩, .never⟩] {} wf_empty (by intro k r hk; simp [Slab.empty, Slab.get?] at hk) 0 .never (by decide)
  simp [resolvable] at this

/-- PARTIAL: holds for batches without notifications (and whose stream requests have live consumers) -/
theorem registry_bounded_partial (reg : Slab Resolve) (effs : List Eff) (w : World) (hwf : WF reg)
    (hold : ∀ k r, reg.get? k = some r → resolvable w r = true)
    (hnew : ∀ e ∈ effs, resolvable w e.res = true) :
    ∀ k r, (registerAll reg effs).2.get? k = some r → resolvable w r = true := by
  intro k r hk
  rcases registerAll_entries reg effs hwf k r hk with h | ⟨p, hp, _, hpr⟩
  · exact hold k r h
  · have hmem : p.2 ∈ effs := by
      have := registerAll_effects reg effs
      rw [← this]
      exact List.mem_map.mpr ⟨p, hp, rfl⟩
    rw [← hpr]; exact hnew _ hmem

/-- second retention (registry.rs:65-69): an ended stream's entry answers `FinishedMany` but stays -/
theorem finished_stream_entry_stays (reg : Slab Resolve) (id l : Nat) (v : Val) (w : World)
    (hg : reg.get? id = some (.many l)) (hdead : (w.leaf l).receiverAlive = false) :
    resume reg id (some v) w = (.err .finished, reg, w) := by
  unfold resume
  simp only [hg]
  rw [(resolve_many_iff l v w).2 hdead]
  simp

/-- STATED, NOT PROVED: occupancy of the task slabs is bounded by outstanding work over whole runs (needs the eviction
    invariants of DESIGN §3.9). The hooks `verif_live_tasks`, `verif_stats`, `verif_registry` are compared with the model
    after every call by the correspondence check. -/
def tasks_released_goal : Prop :=
  ∀ (k k' : Core) (effs : List Eff), process k = some (effs, k') →
    k'.execTasks.len ≤ (k'.w.leaves.filter fun l => l.senderAlive && l.receiverAlive).length + k'.w.cmds.length

/-- **ONCE A COMMAND IS DONE OR DROPPED NOTHING OF IT REMAINS IN ITS HOST — over whole runs** (`…_flat`: apps whose `update`
    returns commands without combinators, plus host-free legacy tasks). After EVERY history of events, resolutions, drops,
    aborts and probes, when any further call into the Core has returned, every executor task that hosts a command hosts a
    command that is LIVE (never a dropped one) and NOT DONE (it still has a task or an output), and no command is hosted
    twice: the executor's occupancy by commands is the number of commands with outstanding work, whatever the length of the
    history. Invariants `QI` (scheduling: a hosted command that is not about to be polled is not done — the spawner removes
    its task in the very poll in which the command finishes) and `OC` (Lemmas/Occ.lean: hosted ⇒ live, hosted at most once,
    spawn-queue entries distinct, live and unhosted). -/
theorem finished_commands_leave_the_executor_flat (prog : M.Hosts.Prog) (hp : progFlat prog) (canon : Bool)
    (acts : List M.Hosts.Action) (os : List M.Hosts.Obs) (h : M.Hosts.CoreHost)
    (hr : M.Hosts.runCore prog canon acts = some (os, h)) (a : M.Hosts.Action) (o : M.Hosts.Obs) (h' : M.Hosts.CoreHost)
    (hs : h.step a = some (o, h')) (e c : Nat) (hh : h'.k.execTasks.get? e = some (.cmd c)) :
    (h'.k.w.cmd c).alive = true ∧ h'.k.w.isDoneNow c = false ∧
      ∀ e', h'.k.execTasks.get? e' = some (.cmd c) → e' = e := by
  have qo := M.Hosts.runCore_inv M.Hosts.QO_ops prog (M.Hosts.QO_init prog hp) canon acts os h hr
  have qo' := M.Hosts.CoreHost.step_inv M.Hosts.QO_ops h a o h' hs qo
  have quiet := M.Hosts.CoreHost.step_q h a o h' hs qo.1
  exact qo'.hosted quiet.2.1 quiet.2.2 hh

/-- the same in every state the serialized Bridge reaches in which the executor's queues are empty (every state in which a
    call that ran the Core has just returned) -/
theorem finished_commands_leave_the_executor_bridge_flat (prog : M.Hosts.Prog) (hp : progFlat prog) (canon : Bool)
    (acts : List M.Hosts.Action) (os : List M.Hosts.Obs) (h : M.Hosts.BridgeHost)
    (hr : M.Hosts.runBridge prog canon acts = some (os, h)) (e1 : h.b.core.w.execSpawn = []) (e2 : h.b.core.w.execReady = [])
    (e c : Nat) (hh : h.b.core.execTasks.get? e = some (.cmd c)) :
    (h.b.core.w.cmd c).alive = true ∧ h.b.core.w.isDoneNow c = false := by
  have qo := M.Hosts.runBridge_inv M.Hosts.QO_ops prog (M.Hosts.QO_init prog hp) canon acts os h hr
  exact ⟨(qo.hosted e1 e2 hh).1, (qo.hosted e1 e2 hh).2.1⟩

/-- **RESOURCE USE IS BOUNDED BY OUTSTANDING WORK — every stored task is charged to a request the shell still holds.** For
    every simpleS task program (emit, notify, request, stream, spawn, join, select, self-wake in any nesting) under the direct
    host, after EVERY history: every task still in the command's slab has its own waker registered in a channel whose
    sender is alive (a request or stream the shell can still resolve or drop; `legacy` channels do not occur under this
    host). A channel holds one waker and a waker names its task, so distinct stored tasks are charged to distinct
    outstanding requests: the slab's occupancy never exceeds the number of outstanding requests, whatever the length of the
    history. Invariants `GInv` (parked at own registrations), `LQ` (a registered waker means a live sender), `CS` (a task
    suspended only at closed requests is queued or held by a channel) and `runDirect_cs` (the ready queue is empty after
    every observation). -/
theorem stored_tasks_are_charged_to_outstanding_requests (is : List Instr) (hf : hostFreeIs is = true)
    (hs : simpleSIs is = true) (canon : Bool) (acts : List M.Hosts.Action) (os : List M.Hosts.Obs) (d : M.Hosts.Direct)
    (h : M.Hosts.runDirect (.task is) canon acts = some (os, d)) (tid : Nat) (t : Task)
    (hg : (d.w.cmd d.cid).tasks.get? tid = some t) :
    ∃ l s, l < d.w.leaves.length ∧ (d.w.leaf l).waker = some (.task d.cid tid s) ∧
      ((d.w.leaf l).senderAlive = true ∨ (d.w.leaf l).legacy = true) :=
  M.Hosts.runDirect_charged is hf hs canon acts os d h tid t hg

/-- … and distinct stored tasks are charged to distinct channels (a channel holds one waker) -/
theorem charges_are_distinct (w : World) (c tid tid' s s' l : Nat) (h : (w.leaf l).waker = some (.task c tid s))
    (h' : (w.leaf l).waker = some (.task c tid' s')) : tid = tid' := by
  rw [h] at h'
  cases h'
  rfl

/-! ### task FUTURES (first clause: "its future and everything it captured are dropped")

`Meta.taskAlive` is the model's drop guard of a task future: set when the task is created, cleared only by `dropTask`.
`M.Hosts.liveFutures` counts them; the harness counts real drop guards captured by the task futures and the two numbers are
compared after every step of every direct `(task …)` case (`g<N>`, oracle key task-future-not-dropped). -/

/-- **a finished or cancelled task's future is dropped — and no other task's** (executor.rs:173-181): after
    `finishTask` the task's own guard is gone and every other guard is exactly as it was -/
theorem finished_task_future_dropped (c tid : Nat) (w : World) (t : Task) (hg : (w.cmd c).tasks.get? tid = some t)
    (ht : hostFreeB t.fut = true) (hs : t.serial < w.metas.length) :
    ((finishTask c tid w).getMeta t.serial).taskAlive = false ∧
    ∀ s, s ≠ t.serial → ((finishTask c tid w).getMeta s).taskAlive = (w.getMeta s).taskAlive :=
  finishTask_future c tid w t hg ht hs

/-- dropping a task whose future was alive takes exactly one off the number of live futures (the quantity the harness
    observes with drop guards) -/
theorem dropped_task_counted_once (w : World) (t : Task) (ht : hostFreeB t.fut = true) (hs : t.serial < w.metas.length)
    (ha : (w.getMeta t.serial).taskAlive = true) : M.Hosts.liveFutures (w.dropTask t) + 1 = M.Hosts.liveFutures w :=
  liveFutures_dropTask w t ht hs ha

/-- **an aborted command drops the future of every task it stored** (`self.tasks.clear()`, executor.rs:150-154), for any
    task layer: after `run_until_settled` on an aborted command no stored task's guard is alive and the slab is empty -/
theorem aborted_command_drops_task_futures (runTask : Nat → Nat → World → Option (TaskState × World)) (c : Nat)
    (w w' : World) (ha : w.aborted c = true) (h : runUntilSettledF runTask c w = some w')
    (hf : ∀ t ∈ (w.cmd c).tasks.values, hostFreeB t.fut = true ∧ t.serial < w.metas.length) :
    ∀ t ∈ (w.cmd c).tasks.values, (w'.getMeta t.serial).taskAlive = false := by
  unfold runUntilSettledF at h
  simp only [ha, if_true, Option.some.injEq] at h
  subst h
  intro t ht
  have := (dropAll_futures (w.cmd c).tasks.values w hf).1 t ht
  exact this

/-- **EVERY LIVE TASK FUTURE IS STORED — over whole runs** (host-free task programs: emit, notify, request, stream, spawn,
    join, select, hand-off, join / abort handles, self-wake, abort of the command, in any nesting; direct host). After EVERY
    history of resolutions, drops, aborts and polls, every task future whose drop guard is still alive belongs to a task that
    sits in the command's slab or waits in its spawn queue: a finished, cancelled, evicted or aborted task's future — and
    everything it captured — is gone, nothing is kept anywhere else, and so the number of live futures never exceeds what
    the slab and the spawn queue hold, whatever the length of the history. Accounting invariant `Acc` (Lemmas/Acc.lean: one
    frame over `pollBlock` — `acc_ops`, an instance of the poll induction `pollBlock_inv` —, then the executor, the shell's operations and the direct host), carried next to `GInv`
    and `LQ`. This is the quantity the harness observes on the real code with drop guards (`g<N>`). -/
theorem live_task_futures_are_stored (is : List Instr) (hf : hostFreeIs is = true) (canon : Bool)
    (acts : List M.Hosts.Action) (os : List M.Hosts.Obs) (d : M.Hosts.Direct)
    (h : M.Hosts.runDirect (.task is) canon acts = some (os, d)) :
    (∀ s, s < d.w.metas.length → (d.w.getMeta s).taskAlive = true →
      (∃ tid t, (d.w.cmd d.cid).tasks.get? tid = some t ∧ t.serial = s) ∨ (∃ t ∈ (d.w.cmd d.cid).spawnQ, t.serial = s)) ∧
    M.Hosts.liveFutures d.w ≤ (d.w.cmd d.cid).tasks.len + (d.w.cmd d.cid).spawnQ.length := by
  have ag := M.Hosts.runDirect_ag is hf canon acts os d h
  exact ⟨ag.2.2.2, M.Hosts.liveFutures_le_stored d.cid d.w ag.2⟩

/-! non-vacuity: a run in which a child is spawned, its request dropped (the child is evicted) and the parent finishes —
    evaluated by the kernel: three futures were created, none is alive at the end -/
example : ((M.Hosts.runDirectG (.task [.spawn 0 [.req 1 2 (.lit 3)], .await 0, .emit 5 (.lit 1)]) false [.drop 0]).map
    fun r => r.1.map (·.2)) = some [2, 0] := by decide +kernel

/-! ### the cleared-timer set of the legacy Time capability (crux_time/src/lib.rs: `clear`, `TimerFuture`, `LIVE_TIMERS`)

Before the repair `fix: forget a cleared timer id when no timer future can observe it` the statement below was false of the
code and of its model: `start, answer, clear` left the id of the finished timer in the set for ever (harness case
`lset A s0 f0 c0`, observation `c0/o` at every later step), so the set grew with the number of set / fire / clear cycles. -/

open M.Timer Lemmas.Timer in
/-- **THE CLEARED-TIMER SET IS BOUNDED BY THE OUTSTANDING TIMERS — over whole runs.** For every number of legacy timers,
    every start value of the id counter and EVERY history of starts, clears (before, while and after the timer is
    pending, repeated), shell answers (right, wrong id, wrong kind), dropped requests and idle core calls (while the id
    counter does not wrap): every id the set remembers belongs to a timer that was started and whose task has not completed
    (its `TimerFuture` is alive), the set holds no id twice, and so its size never exceeds the number of outstanding
    timers — whatever the length of the history. -/
theorem cleared_timer_set_bounded_by_outstanding_timers (counter : Nat) (kinds : List Kind) (steps : List (LAct × Nat))
    (hb : counter + steps.length < 18446744073709551616) :
    let w := lfinal (mkLWorld counter kinds) steps
    (∀ x ∈ w.cleared, ∃ (j : Nat) (t : LTimer), w.timers[j]? = some t ∧ t.id = some x ∧ t.finished = false) ∧
    w.cleared.Nodup ∧
    w.cleared.length ≤ (w.timers.filter fun t => t.id.isSome && !t.finished).length := by
  intro w
  have hw : WInv w := winv_lfinal steps _ (winv_init counter kinds) hb
  have hc : CB w := cb_lfinal steps _ (winv_init counter kinds) (cb_init counter kinds) hb
  exact ⟨hc, hw.nodup, cleared_bounded w hw hc⟩

open M.Timer Lemmas.Timer in
/-- once a timer's task has completed (it reported its outcome) its id is not in the set, in any later state: nothing of a
    finished timer remains -/
theorem finished_timer_is_forgotten (counter : Nat) (kinds : List Kind) (steps : List (LAct × Nat))
    (hb : counter + steps.length < 18446744073709551616) (j : Nat) (t : LTimer) (id : Nat)
    (ht : (lfinal (mkLWorld counter kinds) steps).timers[j]? = some t) (hid : t.id = some id) (hf : t.finished = true) :
    id ∉ (lfinal (mkLWorld counter kinds) steps).cleared :=
  finished_not_cleared _ (winv_lfinal steps _ (winv_init counter kinds) hb)
    (cb_lfinal steps _ (winv_init counter kinds) (cb_init counter kinds) hb) j t id ht hid hf

open M.Timer Lemmas.Timer in
/-- the same in an app that starts timers through BOTH APIs (one id counter, one set): the set stays within the outstanding
    legacy timers; command-API timers never add to it -/
theorem cleared_timer_set_bounded_mixed (counter : Nat) (kinds : List (Bool × Kind)) (steps : List (MAct × Nat))
    (hb : counter + steps.length < 18446744073709551616) :
    let w := (mfinal (mkMWorld counter kinds) steps).lw
    (∀ x ∈ w.cleared, ∃ (j : Nat) (t : LTimer), w.timers[j]? = some t ∧ t.id = some x ∧ t.finished = false) ∧
    w.cleared.length ≤ (w.timers.filter fun t => t.id.isSome && !t.finished).length := by
  intro w
  have hm : MInv (mfinal (mkMWorld counter kinds) steps) := minv_mfinal steps _ (minv_init counter kinds) hb
  have hc : CB w := cb_mfinal steps _ (minv_init counter kinds) (cb_init counter _) hb
  exact ⟨hc, cleared_bounded w hm.lwinv hc⟩

/-! non-vacuity (kernel evaluation of concrete histories): a clear while pending is remembered (the bound is tight) … -/
example : (M.Timer.lfinal (M.Timer.mkLWorld 1 [.after]) [(.start, 0), (.clear, 0)]).cleared = [1] := by decide
/-! … the timer's next poll empties the set … -/
example : (M.Timer.lfinal (M.Timer.mkLWorld 1 [.after]) [(.start, 0), (.clear, 0), (.resolveReq .good, 0)]).cleared = [] := by decide
/-! … and the history that used to leak (start, answer, clear) leaves nothing behind -/
example : (M.Timer.lfinal (M.Timer.mkLWorld 1 [.after]) [(.start, 0), (.resolveReq .good, 0), (.clear, 0)]).cleared = [] := by decide

end Props.C13
