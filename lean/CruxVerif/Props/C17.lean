/-
C17 — key-value operations and results pass through unaltered.
-/
import CruxVerif.Spec.Kv
namespace Props.C17
open M.Kv S.Kv

/-- every call emits exactly one operation (both APIs share `Call.ops`) -/
theorem kv_emits_one (c : Call) : c.ops.length = 1 := by cases c <;> rfl

/-- … of the corresponding kind, carrying key / value / prefix / cursor unchanged -/
theorem kv_args_exact (c : Call) : ∃ o, c.ops = [o] ∧ opMatches c o = true := by
  cases c <;> exact ⟨_, rfl, by simp [opMatches]⟩

/-- `unwrap` delivers the documented result when there is one and panics otherwise -/
theorem unwrap_eq (c : Call) (r : KvResult) : unwrap c r = (expected c r).getD .panic := by
  cases r with
  | err e => cases c <;> rfl
  | ok resp =>
    -- `expected` looks into the value carried by `get` / `set` / `delete`
    cases resp with
    | get v => cases c <;> cases v <;> rfl
    | set p => cases c <;> cases p <;> rfl
    | delete p => cases c <;> cases p <;> rfl
    | exists_ b => cases c <;> rfl
    | listKeys ks n => cases c <;> rfl

/-- a matching response (or an error) is delivered unchanged -/
theorem unwrap_exact (c : Call) (r : KvResult) (e : ApiResult) (h : expected c r = some e) :
    unwrap c r = e := by
  rw [unwrap_eq, h, Option.getD_some]

/-- a mismatched response never yields data: the task panics -/
theorem unwrap_mismatch_panics (c : Call) (r : KvResult) (h : expected c r = none) :
    unwrap c r = .panic := by
  rw [unwrap_eq, h, Option.getD_none]

/-- `Value ↔ Option<Vec<u8>>` are mutually inverse … -/
theorem value_option_bijection (v : Value) (o : Option Bytes) :
    Value.ofOption v.toOption = v ∧ (Value.ofOption o).toOption = o := by
  cases v <;> cases o <;> simp [Value.ofOption, Value.toOption]

/-- … and absent stays distinct from empty, in both directions -/
theorem none_ne_empty : Value.toOption .none ≠ Value.toOption (.bytes []) ∧
    Value.ofOption none ≠ Value.ofOption (some []) := by
  simp [Value.toOption, Value.ofOption]

/-- C17 on the model: every observation the model produces is accepted by the specification. -/
theorem C17_kv_sound (c : Call) (r : KvResult) : S.Kv.ok c r (run c r).1 (run c r).2 = true := by
  obtain ⟨o, ho, hm⟩ := kv_args_exact c
  simp only [S.Kv.ok, run, ho, hm, Bool.true_and]
  cases h : expected c r with
  | none => rfl
  | some e => simp [unwrap_exact c r e h]

/-! non-vacuity -/
example : expected (.get [107]) (.ok (.get (.bytes []))) = some (.data (some [])) := by decide
example : S.Kv.ok (.get [107]) (.ok (.get (.bytes []))) [.get [107]] (.data none) = false := by decide
example : S.Kv.ok (.set [107] [1]) (.ok (.set .none)) [.set [107] []] (.data none) = false := by decide

end Props.C17
