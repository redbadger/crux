/-
C16 — HTTP middleware wraps requests in order; redirects are bounded and exact.

All theorems are about the model M.Mw of crux_http's `Next::run`, `Client::send`, `Redirect::handle` and the
three sending APIs, for every stack (any length, any mix of kinds), every server (an arbitrary function of
the URL — any redirect graph), arbitrary `parse`/`join`, every attempt limit and every request.

Two clauses of the property do not hold for the code as it is (model parameter `fixed = false`, API `cmd`):

  * `redirect_relative`  — relative Locations are joined to the last *absolute* URL, not the current one
                            (redirect.rs:111-122; key `redirect-relative-base`). Full statement
                            `redirect_relative fixed`; refuted for `false` (`redirect_relative_false`), proved for
                            every world without a relative hop after a relative hop (`redirect_relative_partial`),
                            and proved in full for the repaired loop (`redirect_relative_fixed`).
  * `mw_all_apis`        — the command API never runs per-request middleware (command.rs:583-609; key
                            `command-api-ignores-middleware`). Refuted (`mw_all_apis_false`), proved for the two
                            capability APIs and for the empty stack (`mw_all_apis_partial`).

`C16_full` is soundness of the model against the specification oracle S.Mw.ok; it is refuted for both values of
`fixed` (`C16_full_false`, by the command API), proved as `C16_partial` (code as it is) and `C16_fixed`
(after the repair of redirect.rs). Only property statements live here; lemmas are in Lemmas/Mw.lean.
-/
import CruxVerif.Lemmas.Mw
namespace Props.C16
open M.Mw S.Mw

/-! ## order -/

/-- Pass-through client middleware `c₁…cₙ` and request middleware `r₁…rₘ`:
    `enter c₁ … enter cₙ enter r₁ … enter rₘ  SHELL  exit rₘ … exit r₁ exit cₙ … exit c₁`,
    the shell sees the request unchanged and its answer comes back unchanged. -/
theorem mw_order (w : World) (fixed : Bool) (cs rs : List Nat) (req : Req) :
    send w fixed (cs.map .pass) (rs.map .pass) req =
      (cs.map .enter ++ rs.map .enter ++ [.shell req] ++ rs.reverse.map .exit ++ cs.reverse.map .exit,
        w.srv req.url) := by
  have hpt : ∀ m ∈ cs.map Mw.pass ++ rs.map Mw.pass, passThrough m = true := by
    intro m hm
    simp only [List.mem_append, List.mem_map] at hm
    rcases hm with ⟨k, _, rfl⟩ | ⟨k, _, rfl⟩ <;> rfl
  have hfold : ∀ (l : List Nat) (r : Req), (l.map Mw.pass).foldl (fun r m => onReq m r) r = r := by
    intro l
    induction l with
    | nil => intro r; rfl
    | cons k l ih => intro r; simpa [onReq] using ih r
  rw [send, L.Mw.run_passThrough w fixed _ req hpt, ← List.map_append, hfold]
  simp [ident, List.map_reverse, Function.comp_def]

/-- The same for any pass-through stack (also middleware that changes the request on the way in):
    every middleware sees what the ones before it made of the request; the shell sees the result. -/
theorem mw_order_passThrough (w : World) (fixed : Bool) (client reqMw : List Mw) (req : Req)
    (h : ∀ m ∈ client ++ reqMw, passThrough m = true) :
    send w fixed client reqMw req =
      ((client ++ reqMw).map (fun m => Ev.enter (ident m)) ++
        [.shell ((client ++ reqMw).foldl (fun r m => onReq m r) req)] ++
        (client ++ reqMw).reverse.map (fun m => Ev.exit (ident m)), w.srv req.url) :=
  L.Mw.run_passThrough w fixed _ req h

/-! ## the shell is reached exactly once per invocation of the rest of the chain -/

/-- `next.run` on an empty remainder: exactly one request reaches the shell — the one passed in, body included —
    and the shell's answer is the result. -/
theorem endpoint_once (w : World) (fixed : Bool) (req : Req) :
    run w fixed [] req = ([.shell req], w.srv req.url) := rfl

/-- A request sent through the client a middleware is handed (`client.get(u).await`, the probes of Redirect) goes
    straight to the shell, once: that client's stack is empty (client.rs:126-132). -/
theorem endpoint_once_inner_client (w : World) (fixed : Bool) (u : Url) :
    issued w fixed u none = ([.shell (getReq u)], w.srv u) ∧ send w fixed [] [] (getReq u) = issued w fixed u none :=
  ⟨rfl, rfl⟩

/-- A pass-through stack reaches the shell exactly once. -/
theorem endpoint_once_passThrough (w : World) (fixed : Bool) (st : List Mw) (req : Req)
    (h : ∀ m ∈ st, passThrough m = true) : shells (run w fixed st req).1 = 1 := by
  rw [L.Mw.shells_local w fixed st req fun m hm => L.Mw.isLocal_of_passThrough (h m hm), L.Mw.mult_passThrough st h]

/-- Any stack of middleware that send nothing themselves reaches the shell once per invocation of `next.run`
    all the way down: `mult` = 1, doubled by every `twice`, 0 below a short-circuit. -/
theorem endpoint_count (w : World) (fixed : Bool) (st : List Mw) (req : Req)
    (h : ∀ m ∈ st, isLocal m = true) : shells (run w fixed st req).1 = mult st :=
  L.Mw.shells_local w fixed st req h

/-- Below a short-circuit nothing runs: whatever follows it in the stack — of any kind — is unobservable,
    whatever precedes it. -/
theorem endpoint_zero_below_short (w : World) (fixed : Bool) (pre : List Mw) (k s : Nat) (rest : List Mw) (req : Req) :
    run w fixed (pre ++ .short k s :: rest) req = run w fixed (pre ++ [.short k s]) req ∧
    run w fixed (.short k s :: rest) req = ([.enter k], .ok ⟨s, [], [k]⟩) :=
  ⟨L.Mw.run_cut w fixed _ (fun _ _ => rfl) pre rest req, rfl⟩

theorem endpoint_zero_below_fail (w : World) (fixed : Bool) (pre : List Mw) (k : Nat) (rest : List Mw) (req : Req) :
    run w fixed (pre ++ .fail k :: rest) req = run w fixed (pre ++ [.fail k]) req ∧
    shells (run w fixed (.fail k :: rest) req).1 = 0 :=
  ⟨L.Mw.run_cut w fixed _ (fun _ _ => rfl) pre rest req, rfl⟩

/-! ## the redirect middleware -/

/-- At most `attempts` probes, each a body-less copy of the request (same method and headers). -/
theorem redirect_bounded (w : World) (fixed : Bool) (attempts : Nat) (req : Req) :
    (redirectLoop w fixed attempts req req.url).1.length ≤ attempts ∧
    ∀ e ∈ (redirectLoop w fixed attempts req req.url).1, IsProbeOf req e :=
  ⟨L.Mw.loop_length w fixed attempts req req.url,
   (L.Mw.loop_probes w fixed attempts req req req.url ⟨rfl, rfl, rfl⟩).1⟩

/-- No probe after the first answer that is not one of the five redirect statuses (or is an error). -/
theorem redirect_stops (w : World) (fixed : Bool) (attempts : Nat) (req : Req) (pre : Trace) (p : Req) (post : Trace)
    (h : (redirectLoop w fixed attempts req req.url).1 = pre ++ .shell p :: post)
    (hp : ¬ redirecting w p.url) : post = [] :=
  L.Mw.loop_stops w fixed attempts req req.url pre p post h hp

/-- After the probes the rest of the chain runs exactly once, on the original request — method, headers and
    body — with only the URL replaced; if the loop failed nothing more is sent. With nothing below Redirect:
    exactly one non-probe request. -/
theorem redirect_final (w : World) (fixed : Bool) (attempts : Nat) (rest : List Mw) (req : Req) :
    (∀ r, (redirectLoop w fixed attempts req req.url).2 = .ok r →
      SameButUrl r req ∧
      run w fixed (.redirect attempts :: rest) req =
        ((redirectLoop w fixed attempts req req.url).1 ++ (run w fixed rest r).1, (run w fixed rest r).2) ∧
      run w fixed [.redirect attempts] req =
        ((redirectLoop w fixed attempts req req.url).1 ++ [.shell r], w.srv r.url)) ∧
    (∀ e, (redirectLoop w fixed attempts req req.url).2 = .err e →
      run w fixed (.redirect attempts :: rest) req = ((redirectLoop w fixed attempts req req.url).1, .err e)) := by
  have hp := (L.Mw.loop_probes w fixed attempts req req req.url ⟨rfl, rfl, rfl⟩).2
  cases hl : redirectLoop w fixed attempts req req.url with
  | mk t res =>
    rw [hl] at hp
    refine ⟨fun r hr => ?_, fun e he => ?_⟩
    · obtain rfl : res = .ok r := hr
      exact ⟨hp r rfl, by simp only [run, hl], by simp only [run, hl, endpoint]⟩
    · obtain rfl : res = .err e := he
      simp only [run, hl]

/-- … and the URL of that request is the last one the documented walk computes (for the repaired loop;
    for the code as it is see `redirect_relative_partial`). -/
theorem redirect_final_url (w : World) (attempts : Nat) (req : Req) (r : Req)
    (h : (redirectLoop w true attempts req req.url).2 = .ok r) :
    (walk w attempts req.url).2 = .final r.url := by
  rw [L.Mw.loop_fixed_walk] at h
  simp only at h
  cases hw : (walk w attempts req.url).2 with
  | final u => rw [hw] at h; simp only [LoopRes.ok.injEq] at h; rw [← h]
  | fail e => rw [hw] at h; simp at h

/-- Full statement: the probes and the final URL are those of the walk in which every Location is resolved
    against the URL it was served from. -/
def redirect_relative (fixed : Bool) : Prop :=
  ∀ (w : World) (attempts : Nat) (req : Req),
    redirectLoop w fixed attempts req req.url =
      ((walk w attempts req.url).1.map (probe req),
        match (walk w attempts req.url).2 with
        | .final u => .ok { req with url := u }
        | .fail e => .err e)

/-- holds for redirect.rs with `base_url` assigned the joined URL -/
theorem redirect_relative_fixed : redirect_relative true :=
  fun w a req => L.Mw.loop_fixed_walk w a req

/-- witness: `/x/y` —"z/"→ `/x/z/` —"w"→ should end at `/x/z/w`; the code goes to `/x/w` -/
def witnessWorld : World where
  srv u :=
    if u = "http://a.test/x/y" then .ok ⟨302, ["z/"], []⟩
    else if u = "http://a.test/x/z/" then .ok ⟨302, ["w"], []⟩
    else .ok ⟨200, [], []⟩
  parse _ := some .rel
  join b l :=
    if b = "http://a.test/x/y" ∧ l = "z/" then some (.ok "http://a.test/x/z/")
    else if b = "http://a.test/x/z/" ∧ l = "w" then some (.ok "http://a.test/x/z/w")
    else if b = "http://a.test/x/y" ∧ l = "w" then some (.ok "http://a.test/x/w")
    else none

def witnessReq : Req := ⟨"POST", "http://a.test/x/y", [], [1, 2]⟩

/-- does not hold for redirect.rs as it is -/
theorem redirect_relative_false : ¬ redirect_relative false :=
  fun h => absurd (h witnessWorld 3 witnessReq) (by decide)

/-- holds for redirect.rs as it is on every server that never answers a relative Location at a URL that was
    itself reached through a relative Location -/
theorem redirect_relative_partial (w : World) (hw : NoRelAfterRel w) (attempts : Nat) (req : Req) :
    redirectLoop w false attempts req req.url =
      ((walk w attempts req.url).1.map (probe req),
        match (walk w attempts req.url).2 with
        | .final u => .ok { req with url := u }
        | .fail e => .err e) :=
  L.Mw.loop_walk w false (fun _ => hw) attempts req req.url (.inl rfl)

/-! ## every API -/

/-- Full statement: through every API the marks log and the shell see what `Client::send` with the request's
    stack produces. -/
def mw_all_apis (fixed : Bool) : Prop :=
  ∀ (w : World) (api : Api) (stack : List Mw) (req : Req),
    (runCase w fixed api [] stack req).1 = (send w fixed [] stack req).1

/-- refuted by the command API with one pass-through middleware: no mark is ever recorded -/
theorem mw_all_apis_false (fixed : Bool) : ¬ mw_all_apis fixed :=
  fun h => absurd (h witnessWorld .cmd [.pass 1] witnessReq) (by cases fixed <;> decide)

/-- holds for both capability APIs, and for the command API when there is no middleware -/
theorem mw_all_apis_partial (w : World) (fixed : Bool) (api : Api) (stack : List Mw) (req : Req)
    (h : api ≠ .cmd ∨ stack = []) :
    (runCase w fixed api [] stack req).1 = (send w fixed [] stack req).1 ∧
    (api = .cmd → runCase w fixed api [] stack req = runCase w fixed .send [] stack req) := by
  cases api with
  | send => exact ⟨rfl, fun h => by cases h⟩
  | async => exact ⟨rfl, fun h => by cases h⟩
  | cmd =>
    rcases h with h | h
    · exact absurd rfl h
    · subst h; exact ⟨rfl, fun _ => rfl⟩

/-! ## soundness against the specification oracle -/

/-- Full statement of C16 on the model: the specification accepts every observation the model produces. -/
def C16_full (fixed : Bool) : Prop :=
  ∀ (w : World) (api : Api) (client stack : List Mw) (req : Req),
    S.Mw.ok w api client stack req (runCase w fixed api client stack req) = true

/-- refuted, with or without the repair of redirect.rs, by the command API -/
theorem C16_full_false (fixed : Bool) : ¬ C16_full fixed :=
  fun h => absurd (h witnessWorld .cmd [] [.pass 1] witnessReq) (by cases fixed <;> decide)

/-- refuted for the code as it is also through the capability API, by the relative-redirect witness -/
theorem C16_full_false_redirect :
    ¬ ∀ (w : World) (client stack : List Mw) (req : Req),
      S.Mw.ok w .send client stack req (runCase w false .send client stack req) = true :=
  fun h => absurd (h witnessWorld [] [.redirect 3] witnessReq) (by decide)

/-- After the repair of redirect.rs: sound for every stack, server, limit and request through the capability
    APIs, and through the command API without middleware. -/
theorem C16_fixed (w : World) (api : Api) (client stack : List Mw) (req : Req)
    (h : api ≠ .cmd ∨ (client = [] ∧ stack = [])) :
    S.Mw.ok w api client stack req (runCase w true api client stack req) = true := by
  simp only [S.Mw.ok, beq_iff_eq]
  cases api with
  | send => simp [runCase, expected, L.Mw.send_fixed_chain]
  | async => simp [runCase, expected, L.Mw.send_fixed_chain]
  | cmd =>
    rcases h with h | ⟨rfl, rfl⟩
    · exact absurd rfl h
    · rfl

/-- The code as it is: sound under the same restriction on the API and on servers without a relative hop after
    a relative hop. -/
theorem C16_partial (w : World) (hw : NoRelAfterRel w) (api : Api) (client stack : List Mw) (req : Req)
    (h : api ≠ .cmd ∨ (client = [] ∧ stack = [])) :
    S.Mw.ok w api client stack req (runCase w false api client stack req) = true := by
  have : runCase w false api client stack req = runCase w true api client stack req := by
    cases api <;> simp [runCase, send, L.Mw.run_unfixed_eq w hw]
  rw [this]
  exact C16_fixed w api client stack req h

/-! ## non-vacuity (tests by evaluation) -/

/-- a world with a relative hop that satisfies the hypothesis of the partial theorems -/
def oneRelWorld : World where
  srv u := if u = "http://a.test/x/y" then .ok ⟨307, ["z/"], []⟩ else .ok ⟨200, [], []⟩
  parse _ := some .rel
  join b l := if b = "http://a.test/x/y" ∧ l = "z/" then some (.ok "http://a.test/x/z/") else none

example : NoRelAfterRel oneRelWorld := by
  intro b loc u hj res hs hr
  simp only [oneRelWorld] at hj hs
  split at hj
  · simp only [Option.some.injEq, JRes.ok.injEq] at hj
    subst hj
    simp at hs
    subst hs
    simp [isRedirect] at hr
  · simp at hj

-- the relative hop is followed, one probe, then the request with its body
example : run oneRelWorld false [.redirect 3] witnessReq =
    ([.shell ⟨"POST", "http://a.test/x/y", [], []⟩, .shell ⟨"POST", "http://a.test/x/z/", [], []⟩,
      .shell ⟨"POST", "http://a.test/x/z/", [], [1, 2]⟩], .ok ⟨200, [], []⟩) := by decide
-- the defect, and the repaired loop, on the witness
example : (redirectLoop witnessWorld false 3 witnessReq witnessReq.url).2 =
    .ok { witnessReq with url := "http://a.test/x/w" } := by decide
example : (redirectLoop witnessWorld true 3 witnessReq witnessReq.url).2 =
    .ok { witnessReq with url := "http://a.test/x/z/w" } := by decide
-- attempts = 1 stops after one probe although the answer was a redirect
example : (redirectLoop witnessWorld false 1 witnessReq witnessReq.url).1.length = 1 := by decide
-- the oracle rejects what the code does, and names the clause
example : S.Mw.rejectKey witnessWorld [("http://a.test/x/y", "w"), ("http://a.test/x/z/", "w")] .send [] [.redirect 3]
    witnessReq (runCase witnessWorld false .send [] [.redirect 3] witnessReq) = "redirect-relative-base" := by decide
example : S.Mw.rejectKey witnessWorld [] .cmd [] [.pass 1] witnessReq
    (runCase witnessWorld false .cmd [] [.pass 1] witnessReq) = "command-api-ignores-middleware" := by decide
-- a stack mixing all kinds: order of marks and requests
example : (run witnessWorld true [.pass 1, .twice 2, .tag 3] ⟨"GET", "u", [], [7]⟩).1 =
    [.enter 1, .enter 2, .enter 3, .shell ⟨"GET", "u", [("x-mw", "3")], []⟩, .exit 3, .mid 2,
     .enter 3, .shell ⟨"GET", "u", [("x-mw", "3")], [7]⟩, .exit 3, .exit 2, .exit 1] := by decide

end Props.C16
