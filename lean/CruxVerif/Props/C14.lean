/-
C14 — an HTTP request reaches the shell exactly as the app described it.

Model: `M.Http.buildRequest` (builder calls of either API folded over an `http_types::Request`, then
`into_protocol_request`, one effect).  Specification: `S.Http.okReq` (computed backwards from the call list).
All theorems are for every method token, URL, and every *list* of builder calls (unbounded; induction over the list
in `Lemmas.Http.foldCalls_spec` / `foldl_stepName`), with header names / values / bodies arbitrary byte strings.

Outside the documented domain (a header name or value that is not ASCII) the builders panic; the property does not
constrain that case (`inDomain`).

One defect of the pinned tree is visible here (key `stale-content-type`): when no content type is set explicitly and a
body is replaced by a body of another kind, the request carries the content type of the *first* body
(`copy_content_type_from_body` only fills a gap).  Hence the full statement `C14_full` is false (`C14_full_false`);
`C14_sound_partial` is the strongest true restriction and `stale_content_type_exact` pins the defect.
A second defect (`unknown-length-body-dropped`: a body of unknown length was not sent) was repaired in /repo fb3ba05; the
model follows the repaired code and reader bodies are covered by the theorems for every chunking and declared length
(`reader_body_exact`, `reader_chunking_irrelevant`, `reader_body_complete`).
The order in which the headers are emitted (sorted by name since /repo cda2127) is modelled (`emitHeaders`) but is not
C14's concern — C11 proves it independent of the hash-map iteration order.
-/
import CruxVerif.Lemmas.Http
namespace Props.C14
open M.Http S.Http Lemmas.Http

/-- What the code makes of header `k` (lower-case name): the last explicit setting; otherwise, for `content-type`,
    the MIME of the *first* body set; otherwise nothing. -/
def modelValues (calls : List Call) (k : Bytes) : List Bytes :=
  match lastExplicit k calls with
  | some vs => vs
  | none => if k = ctName then (match firstBody calls with | some (k1, _) => [k1.mime] | none => []) else []

/-- Closed form of `buildRequest` inside the domain (ASCII header names and values). -/
theorem buildRequest_closed (c : ReqCase) (hd : inDomain c.calls = true) :
    ∃ hs, buildRequest c = .req 1 (upper c.method) (expectedUrl c) hs (expectedBody c.calls) ∧
      ∀ k, valuesFor hs k = modelValues c.calls k := by
  obtain ⟨r, hr⟩ := Option.isSome_iff_exists.1 ((foldCalls_isSome c.calls
    { method := upper c.method, url := c.url, headers := [], body := [], len := some 0 }).trans hd)
  have hf := foldCalls_spec c.calls hr
  have hkl : NamesLower r.headers := hf.names .nil
  -- a recorded length of 0 means there is nothing to read
  have hzero : r.len = some 0 → r.body = [] := hf.zero fun _ => rfl
  -- entries of the folded request
  have hent : ∀ n, entry r.headers n =
      match lastExplicit n c.calls with
      | some vs => some vs
      | none => if n = ctName then firstMime c.calls else none := by
    intro n
    rw [hf.entries n, foldl_stepName, entry_nil]
    cases lastExplicit n c.calls <;> rfl
  -- a body call implies a content-type entry
  have hct : lastBody c.calls ≠ none → r.headers.contains ctName = true := fun hlb => by
    rw [← entry_isSome, hent, if_pos rfl]
    cases lastExplicit ctName c.calls with
    | some _ => rfl
    | none =>
      cases hfb : firstBody c.calls with
      | none => exact absurd ((lastBody_none_iff _).2 hfb) hlb
      | some _ => simp [firstMime, hfb]
  have hproto : intoProtocol r = r :=
    intoProtocol_eq r hzero fun hl => hct fun hlb => hl (by rw [hf.len hlb])
  refine ⟨emitHeaders r.headers, ?_, fun k => ?_⟩
  · simp only [buildRequest, hr, hproto, hf.method, hf.url, hf.body, expectedUrl, expectedBody]
    congr 1
    · cases lastQuery c.calls <;> rfl
    · cases lastBody c.calls <;> rfl
  · rw [valuesFor_emitHeaders _ hkl, values_eq_entry, hent k]
    unfold modelValues firstMime
    cases lastExplicit k c.calls with
    | some vs => rfl
    | none =>
      by_cases hk : k = ctName
      · simp only [hk, if_true]; cases firstBody c.calls <;> rfl
      · simp [hk]

/-- Exactly one request effect (inside the domain); a panic only outside it. -/
theorem one_effect (c : ReqCase) :
    (inDomain c.calls = true → ∃ m u hs b, buildRequest c = .req 1 m u hs b) ∧
    (inDomain c.calls = false → buildRequest c = .panic .header) := by
  constructor
  · intro hd
    obtain ⟨hs, h, _⟩ := buildRequest_closed c hd
    exact ⟨_, _, hs, _, h⟩
  · intro hd
    have : foldCalls ⟨upper c.method, c.url, [], [], some 0⟩ c.calls = none :=
      Option.not_isSome_iff_eq_none.1 (by simp [foldCalls_isSome, hd])
    simp [buildRequest, this]

/-- Method, URL (after the last `query`, else as parsed) and body bytes (of the last body call, else empty) are the
    ones specified — whatever else the calls do. -/
theorem method_url_body_exact (c : ReqCase) (hd : inDomain c.calls = true) :
    ∃ hs, buildRequest c = .req 1 (upper c.method) (expectedUrl c) hs (expectedBody c.calls) := by
  obtain ⟨hs, h, _⟩ := buildRequest_closed c hd
  exact ⟨hs, h⟩

/-- Every header, compared by lower-cased name, carries exactly `modelValues`: all values of the last
    `header(name, …)` / `content_type(…)` call naming it, in order; else the body's MIME for `content-type`. -/
theorem headers_exact (c : ReqCase) (hd : inDomain c.calls = true) (n : Nat) (m u b : Bytes)
    (hs : List (Bytes × Bytes)) (h : buildRequest c = .req n m u hs b) (k : Bytes) :
    valuesFor hs k = modelValues c.calls k := by
  obtain ⟨hs', h', hv⟩ := buildRequest_closed c hd
  rw [h] at h'
  injection h' with _ _ _ hh _
  subst hh
  exact hv k

/-- Nothing is added: a name no call sets explicitly has no value at all — except `content-type` when a body is set. -/
theorem nothing_added (c : ReqCase) (hd : inDomain c.calls = true) (n : Nat) (m u b : Bytes)
    (hs : List (Bytes × Bytes)) (h : buildRequest c = .req n m u hs b) (k : Bytes)
    (hk : lastExplicit k c.calls = none) (hb : k ≠ ctName ∨ firstBody c.calls = none) :
    valuesFor hs k = [] := by
  rw [headers_exact c hd n m u b hs h k]
  unfold modelValues
  rcases hb with hb | hb <;> simp [hk, hb]

/-- apart from `content-type` the code's header values are the specified ones -/
theorem modelValues_of_ne (calls : List Call) {k : Bytes} (hk : k ≠ ctName) :
    modelValues calls k = expectedValues calls k := by
  unfold modelValues expectedValues
  cases lastExplicit k calls <;> simp [hk]

/-- The code's header values are the specified ones unless the content type is stale. -/
theorem modelValues_eq_expected (calls : List Call) (hst : staleContentType calls = false) (k : Bytes) :
    modelValues calls k = expectedValues calls k := by
  by_cases hk : k = ctName
  · subst hk
    unfold modelValues expectedValues
    cases hl : lastExplicit ctName calls with
    | some vs => rfl
    | none =>
      simp only [if_true, beq_self_eq_true]
      unfold staleContentType at hst
      simp only [hl, Option.isNone_none, Bool.true_and] at hst
      cases hf : firstBody calls with
      | none => simp [(lastBody_none_iff _).2 hf]
      | some x =>
        cases hlb : lastBody calls with
        | none => simp [(lastBody_none_iff _).1 hlb] at hf
        | some y =>
          have : documentedMime x.1 = documentedMime y.1 := by simpa [hf, hlb] using hst
          simp [← documentedMime_eq, this]
  · exact modelValues_of_ne calls hk

/-- **C14 on the model, strongest true form**: every observation the model produces is accepted by the specification,
    for every method, URL and list of builder calls whose content type is not stale. -/
theorem C14_sound_partial (c : ReqCase) (hst : staleContentType c.calls = false) :
    okReq c (buildRequest c) = true := by
  unfold okReq
  by_cases hd : inDomain c.calls = true
  · obtain ⟨hs, h, hv⟩ := buildRequest_closed c hd
    simp only [hd, Bool.not_true, Bool.false_eq_true, if_false, h, beq_self_eq_true, Bool.true_and]
    unfold headersOk
    rw [List.all_eq_true]
    intro k _
    rw [hv k, modelValues_eq_expected c.calls hst k]
    simp
  · simp [hd]

/-- The full statement of C14 on the model. -/
def C14_full : Prop := ∀ c : ReqCase, okReq c (buildRequest c) = true

/-- … is false in the pinned tree: `post(u).body_string("a").body_json(&{})` sends `{}` as `text/plain;charset=utf-8`. -/
theorem C14_full_false : ¬ C14_full := fun h =>
  absurd (h { method := ascii "post", url := ascii "u", calls := [.body .string [97], .body .json [123, 125]] })
    (by decide)

/-- In the defect region the model produces exactly the keyed defect: everything is as specified except that
    `content-type` carries the MIME of the first body; the oracle's key for it is `stale-content-type`. -/
theorem stale_content_type_exact (c : ReqCase) (hd : inDomain c.calls = true)
    (hst : staleContentType c.calls = true) :
    okReq c (buildRequest c) = false ∧ rejectKeyReq c (buildRequest c) = "stale-content-type" := by
  obtain ⟨hs, h, hv⟩ := buildRequest_closed c hd
  -- the stale region: no explicit content type, first and last body of different documented types
  have hst' := hst
  unfold staleContentType at hst'
  simp only [Bool.and_eq_true, Option.isNone_iff_eq_none] at hst'
  obtain ⟨hle, hfl⟩ := hst'
  obtain ⟨k1, b1, hf⟩ : ∃ k1 b1, firstBody c.calls = some (k1, b1) := by
    cases hf : firstBody c.calls with
    | none => simp [hf] at hfl
    | some x => exact ⟨x.1, x.2, rfl⟩
  obtain ⟨k2, b2, hl⟩ : ∃ k2 b2, lastBody c.calls = some (k2, b2) := by
    cases hl : lastBody c.calls with
    | none => simp [hf, hl] at hfl
    | some x => exact ⟨x.1, x.2, rfl⟩
  have hne : documentedMime k1 ≠ documentedMime k2 := by simpa [hf, hl] using hfl
  have hct : valuesFor hs ctName = [documentedMime k1] := by
    rw [hv ctName]; simp [modelValues, hle, hf, documentedMime_eq]
  have hexp : expectedValues c.calls ctName = [documentedMime k2] := by
    simp [expectedValues, hle, hl]
  have hbad : headersOk c.calls hs = false := by
    unfold headersOk
    rw [List.all_eq_false]
    refine ⟨ctName, by simp [namesToCheck], ?_⟩
    rw [hct, hexp]
    simpa using hne
  have hok : okReq c (buildRequest c) = false := by
    unfold okReq
    simp [hd, h, hbad]
  refine ⟨hok, ?_⟩
  unfold rejectKeyReq
  rw [hok]
  simp only [Bool.false_eq_true, if_false, h, bne_self_eq_false]
  have hstale : headersOkButStale c.calls hs = true := by
    unfold headersOkButStale
    rw [Bool.and_eq_true, List.all_eq_true]
    refine ⟨hst, ?_⟩
    intro k _
    rw [hv k]
    by_cases hk : k = ctName
    · subst hk; simp [modelValues, hle, hf, documentedMime_eq]
    · simp [hk, modelValues_of_ne c.calls hk]
  simp [hstale]

/-- **Reader bodies, any chunking**: a body handed over as `Body::from_reader(reader, declared)` reaches the shell as
    exactly what reading it to its end yields — the concatenation of the pieces the reader hands out (cut at the declared
    length, if one is declared) — however the reader chunks its data, whether or not the length is known in advance
    (the `None` case was defect `unknown-length-body-dropped`, repaired by /repo fb3ba05). -/
theorem reader_body_exact (m u : Bytes) (chunks : List Bytes) (declared : Option Nat) :
    ∃ hs, buildRequest ⟨m, u, [Call.bodyReader chunks declared]⟩ = .req 1 (upper m) u hs (readerContent chunks declared) := by
  obtain ⟨hs, h, _⟩ := buildRequest_closed ⟨m, u, [Call.bodyReader chunks declared]⟩ (by simp [inDomain])
  exact ⟨hs, by simpa [expectedUrl, lastQuery, expectedBody, lastBody, bodyOf] using h⟩

/-- … in particular the request does not depend on the chunking at all: two readers whose pieces concatenate to the
    same data give the same request, within any list of builder calls. -/
theorem reader_chunking_irrelevant (c₁ c₂ : List Bytes) (declared : Option Nat) (h : c₁.flatten = c₂.flatten)
    (m u : Bytes) (before after : List Call) :
    buildRequest ⟨m, u, before ++ [Call.bodyReader c₁ declared] ++ after⟩ =
    buildRequest ⟨m, u, before ++ [Call.bodyReader c₂ declared] ++ after⟩ := by
  have hc : readerContent c₁ declared = readerContent c₂ declared := by
    cases declared <;> simp [readerContent, h]
  have happly : ∀ r : Req, applyCall r (Call.bodyReader c₁ declared) = applyCall r (Call.bodyReader c₂ declared) := by
    intro r; simp [applyCall, hc]
  have hfold : ∀ (l : List Call) (r : Req),
      foldCalls r (l ++ [Call.bodyReader c₁ declared] ++ after) = foldCalls r (l ++ [Call.bodyReader c₂ declared] ++ after) := by
    intro l
    induction l with
    | nil => intro r; simp only [List.nil_append, List.cons_append, foldCalls, happly]
    | cons x t ih =>
      intro r
      simp only [List.cons_append, foldCalls]
      cases applyCall r x with
      | none => rfl
      | some r' => exact ih r'
  simp only [buildRequest, hfold]

/-- a complete body (declared length = actual length, or none declared) arrives complete -/
theorem reader_body_complete (m u : Bytes) (chunks : List Bytes) (declared : Option Nat)
    (hd : declared = none ∨ declared = some chunks.flatten.length) :
    ∃ hs, buildRequest ⟨m, u, [Call.bodyReader chunks declared]⟩ = .req 1 (upper m) u hs chunks.flatten := by
  obtain ⟨hs, h⟩ := reader_body_exact m u chunks declared
  refine ⟨hs, ?_⟩
  rw [h]
  rcases hd with rfl | rfl
  · rfl
  · simp only [readerContent, List.take_length]

/-! non-vacuity: concrete requests through the model and the oracle -/

/-- two `header` calls on one name in different case: the last wins with all its values; JSON body, no explicit type -/
example : buildRequest ⟨ascii "post", ascii "https://e.com/",
      [Call.header (ascii "Accept") [ascii "a"], Call.header (ascii "ACCEPT") [ascii "b", ascii "c"],
       Call.body .json (ascii "{}")]⟩
    = .req 1 (ascii "POST") (ascii "https://e.com/")
        [(ascii "accept", ascii "b"), (ascii "accept", ascii "c"), (ascii "content-type", ascii "application/json")]
        (ascii "{}") := by decide

/-- the oracle rejects a request whose second `accept` value is lost, one with an added header, one with the body re-encoded -/
example : okReq { method := ascii "get", url := ascii "u", calls := [.header (ascii "Accept") [ascii "b", ascii "c"]] }
    (.req 1 (ascii "GET") (ascii "u") [(ascii "accept", ascii "b")] []) = false := by decide
example : okReq { method := ascii "get", url := ascii "u", calls := [] }
    (.req 1 (ascii "GET") (ascii "u") [(ascii "user-agent", ascii "x")] []) = false := by decide
example : okReq { method := ascii "get", url := ascii "u", calls := [.body .bytes [255]] }
    (.req 1 (ascii "GET") (ascii "u") [(ascii "content-type", ascii "application/octet-stream")] [195, 191]) = false := by
  decide
example : okReq { method := ascii "get", url := ascii "u", calls := [.body .bytes [255]] }
    (.req 2 (ascii "GET") (ascii "u") [(ascii "content-type", ascii "application/octet-stream")] [255]) = false := by
  decide
/-- form bodies: `a b=é&c=` -/
example : formEncode [([97, 32, 98], [195, 169]), ([99], [])] = ascii "a+b=%C3%A9&c=" := by decide

end Props.C14
