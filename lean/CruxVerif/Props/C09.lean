/-
C09 — the serialized bridge is a faithful, correctly routed image of the core.
Model: M.Bridge (bridge/mod.rs:198-231, registry.rs, request_serde.rs) over M.Slab.
-/
import CruxVerif.Lemmas.Bridge
import CruxVerif.Lemmas.BridgeInv
namespace Props.C09
open M M.Rt M.Bridge M.Slab

/-- an event through the bridge = the same event through the typed core, plus ids: the decoded requests are exactly the
    core's effects, in order, and the core state is the typed core's state -/
theorem bridge_simulates_core_event (b : Bridge) (ev : Ev) (effs : List Eff) (core : Core)
    (h : M.Rt.processEvent ev b.core = some (effs, core)) :
    ∃ reqs reg, M.Bridge.processEvent b (some ev) = some (.ok reqs, { core := core, registry := reg }) ∧
      reqs.map (·.2) = effs :=
  ⟨_, _, M.Bridge.processEvent_some b ev effs core h, M.Bridge.registerAll_effects _ _⟩

/-- a response through the bridge = `Core::resolve` on the request stored under the id: the stored resolve is applied to the
    decoded value, then the core runs, then new effects get ids -/
theorem bridge_simulates_core_response (b : Bridge) (id : Nat) (v : Val) (r : Resolve)
    (hg : b.registry.get? id = some r) (hok : (resolveReq r v b.core.w).2.1 = .ok)
    (effs : List Eff) (core : Core)
    (hp : M.Rt.process { b.core with w := (resolveReq r v b.core.w).2.2 } = some (effs, core)) :
    ∃ reqs reg, handleResponse b id (some v) = some (.ok reqs, { core := core, registry := reg }) ∧
      reqs.map (·.2) = effs := by
  obtain ⟨hw, hres⟩ := resume_exact b.registry id v b.core.w r hg
  have hokr := hres.mpr hok
  unfold handleResponse
  generalize hrs : resume b.registry id (some v) b.core.w = res at hw hokr
  obtain ⟨r1, reg1, w1⟩ := res
  simp only at hw hokr
  subst hokr
  subst hw
  simp only [hp]
  exact ⟨_, _, rfl, registerAll_effects _ _⟩

/-- ids of one batch are pairwise distinct, none of them was in use, and each one addresses the resolve of the effect it was
    issued with -/
theorem ids_fresh_and_distinct (reg : Slab Resolve) (effs : List Eff) (h : WF reg) :
    ((registerAll reg effs).1.map (·.1)).Nodup ∧
    (∀ p ∈ (registerAll reg effs).1, reg.get? p.1 = none ∧ (registerAll reg effs).2.get? p.1 = some p.2.res) :=
  registerAll_ids reg effs h

/-- an id in use (an outstanding request) is never handed out again, and its entry is not disturbed by later registrations -/
theorem outstanding_id_not_reused (reg : Slab Resolve) (effs : List Eff) (h : WF reg) (k : Nat) (hk : (reg.get? k).isSome) :
    k ∉ (registerAll reg effs).1.map (·.1) ∧ (registerAll reg effs).2.get? k = reg.get? k :=
  ⟨registerAll_avoids_occupied reg effs h k hk, registerAll_keeps reg effs h k hk⟩

/-- a response resumes precisely the request issued under its id, with the decoded value, and touches no other entry -/
theorem resume_routes_exactly (reg : Slab Resolve) (id : Nat) (v : Val) (w : World) (r : Resolve)
    (hg : reg.get? id = some r) :
    (resume reg id (some v) w).2.2 = (resolveReq r v w).2.2 ∧
    (∀ k, k ≠ id → (resume reg id (some v) w).2.1.get? k = reg.get? k) :=
  ⟨(resume_exact reg id v w r hg).1, fun k hk => resume_other reg id k (some v) w hk⟩

/-- the registry invariant (free list without duplicates, listing only unoccupied keys) holds initially and is preserved
    by every bridge operation — so the theorems above apply in every reachable state -/
theorem registry_wf_invariant :
    WF (Slab.empty : Slab Resolve) ∧
    (∀ reg effs, WF reg → WF (registerAll reg effs).2) ∧
    (∀ reg id d w, WF reg → WF (resume reg id d w).2.1) :=
  ⟨wf_empty, fun reg effs h => registerAll_wf reg effs h, fun reg id d w h => resume_wf reg id d w h⟩

/-- an id that is not outstanding makes the real code panic (FIXME in registry.rs:60-63); the model has that outcome -/
theorem unknown_id_panics (reg : Slab Resolve) (id : Nat) (d : Option Val) (w : World) (hg : reg.get? id = none) :
    resume reg id d w = (.panic, reg, w) := resume_unknown_panics reg id d w hg

example : (registerAll (Slab.empty) [⟨⟨1, 0⟩, .never⟩, ⟨⟨2, 0⟩, .once 0⟩]).1.map (·.1) = [0, 1] := by decide

/-- THE BRIDGE IS A REGISTRY AROUND THE SAME CORE: every invariant of the Core that `process_event`, `process`, a resolve, a
    sender drop and an abort preserve holds in EVERY state the serialized Bridge reaches, after every history of events,
    raw (possibly undecodable) events, responses, raw responses, stale or unknown ids, aborts and probes — every path
    through the Bridge (`process` with and without an id, the early return on a rejected response) is a composition of
    those five operations on the Core it wraps. -/
theorem bridge_preserves_core_invariants (P : Core → Prop) (ops : M.Hosts.CoreOps P) (prog : M.Hosts.Prog)
    (h0 : P ({ prog := prog } : Core)) (canon : Bool) (acts : List M.Hosts.Action) (os : List M.Hosts.Obs)
    (h : M.Hosts.BridgeHost) (hr : M.Hosts.runBridge prog canon acts = some (os, h)) : P h.b.core :=
  M.Hosts.runBridge_inv ops prog h0 canon acts os h hr

/-- instance: hosting order and channel ownership (C06 / C02) behind the Bridge, for every app with host-free task bodies -/
theorem bridge_core_owns_channels (prog : M.Hosts.Prog) (hp : progHF prog) (canon : Bool) (acts : List M.Hosts.Action)
    (os : List M.Hosts.Obs) (h : M.Hosts.BridgeHost) (hr : M.Hosts.runBridge prog canon acts = some (os, h)) :
    HL h.b.core.w ∧ ∀ l, (h.b.core.w.cmds.map (cmdCnt l)).sum + ecnt l h.b.core.execTasks.values + ecnt l h.b.core.w.execSpawn
      ≤ (if l < h.b.core.w.leaves.length then 1 else 0) :=
  have c := M.Hosts.runBridge_inv M.Hosts.CInv_ops prog (M.Hosts.CInv_init prog hp) canon acts os h hr
  ⟨c.hl, c.unshared⟩

/-- instance: the scheduling invariant (C01, no lost wake-up) behind the Bridge, for flat apps: in every reachable state in
    which the executor's queues are empty — every state in which a call that ran `process` has just returned — no live,
    un-aborted command has anything left to do -/
theorem bridge_core_quiescent_flat (prog : M.Hosts.Prog) (hp : progFlat prog) (canon : Bool) (acts : List M.Hosts.Action)
    (os : List M.Hosts.Obs) (h : M.Hosts.BridgeHost) (hr : M.Hosts.runBridge prog canon acts = some (os, h))
    (e1 : h.b.core.w.execSpawn = []) (e2 : h.b.core.w.execReady = []) (c : Nat) (hc : c < h.b.core.w.cmds.length)
    (hal : (h.b.core.w.cmd c).alive = true) (hna : h.b.core.w.aborted c = false) :
    (h.b.core.w.cmd c).ready = [] ∧ (h.b.core.w.cmd c).spawnQ = [] ∧ (h.b.core.w.cmd c).effects = [] ∧
      (h.b.core.w.cmd c).events = [] :=
  (M.Hosts.runBridge_inv M.Hosts.QI_ops prog (M.Hosts.QI_init prog hp) canon acts os h hr).quiescent e1 e2 c hc hal hna

end Props.C09
