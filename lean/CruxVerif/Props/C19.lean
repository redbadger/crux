/-
C19 — time values convert exactly or are rejected explicitly.

`C19_conv_sound` is the property for every conversion function and every pair
of raw argument fields (unbounded integers, so in particular every u64 / i64 /
u32 / (secs,nanos) pair): the outcome computed by the model of the code is
accepted by the exact-arithmetic specification `S.Conv.ok`, i.e.

  * raw fields that are not a value of the source type ⇒ `skip`,
  * representable value   ⇒ `ok` with fields of the target type denoting the same quantity,
  * unrepresentable value ⇒ explicit rejection (`err` / `panic`).

The corollaries restate the two halves separately and instantiate them at the
three places where the pinned tree wrapped / normalised (repaired by `fix:`
commits, see KNOWN_FINDINGS.txt).
-/
import CruxVerif.Spec.Conv
namespace Props.C19
open M.Conv S.Conv
/-! How `S.Conv.ok` is met.  Every conversion function guards on its argument being a value of the source type
    (the guard is `validArg` up to unfolding) and then either returns fields or rejects. -/

theorem ok_guard {f a b o} (h : validArg f a b = true → ok f a b o = true) :
    ok f a b (if !validArg f a b then .skip else o) = true := by
  cases hv : validArg f a b
  · simp [ok, hv]
  · simpa [hv] using h hv

theorem ok_ok {f a b vs} (hv : validArg f a b = true) (hr : representable f a b = true)
    (he : exact f a b vs = true) : ok f a b (.ok vs) = true := by simp [ok, hv, hr, he]

theorem ok_err {f a b e} (hv : validArg f a b = true) (hr : representable f a b = false) :
    ok f a b (.err e) = true := by simp [ok, hv, hr]

theorem ok_panic {f a b c} (hv : validArg f a b = true) (hr : representable f a b = false) :
    ok f a b (.panic c) = true := by simp [ok, hv, hr]

/-- The usual shape of a conversion: on a value of the source type one range test `c` decides between returning `vs`
    and the rejection `rej` (`hj` is `ok_err` or `ok_panic`).  It meets the oracle when `c` is representability
    and `vs` is exact. -/
theorem ok_test {f a b vs rej} {c : Prop} [Decidable c]
    (hj : validArg f a b = true → representable f a b = false → ok f a b rej = true)
    (hc : validArg f a b = true → (c ↔ representable f a b = true))
    (he : validArg f a b = true → c → exact f a b vs = true) :
    ok f a b (if !validArg f a b then .skip else if c then .ok vs else rej) = true := by
  refine ok_guard fun hv => ?_
  split
  next h => exact ok_ok hv ((hc hv).1 h) (he hv h)
  next h => exact hj hv (Bool.eq_false_iff.2 fun hr => h ((hc hv).2 hr))

/-- `ok_test` for a conversion that tests for the rejection first. -/
theorem ok_test_rej {f a b vs rej} {c : Prop} [Decidable c]
    (hj : validArg f a b = true → representable f a b = false → ok f a b rej = true)
    (hc : validArg f a b = true → (c ↔ representable f a b = false))
    (he : validArg f a b = true → ¬c → exact f a b vs = true) :
    ok f a b (if !validArg f a b then .skip else if c then rej else .ok vs) = true := by
  rw [← ite_not (p := c)]
  exact ok_test hj (fun hv => by simp [hc hv]) he

theorem fromMillis_sound (a b : Int) : ok .fromMillis a b (durationFromMillis a) = true :=
  ok_test ok_panic (fun _ => decide_eq_true_iff.symm) fun hv _ => by
    simp [validArg, exact, isU64] at hv ⊢; omega

theorem fromSecs_sound (a b : Int) : ok .fromSecs a b (durationFromSecs a) = true :=
  ok_test ok_panic (fun _ => decide_eq_true_iff.symm) fun hv _ => by
    simp [validArg, exact, isU64] at hv ⊢; omega

theorem stdToDur_sound (a b : Int) : ok .stdToDur a b (stdToDuration a b) = true :=
  ok_test ok_panic (fun _ => decide_eq_true_iff.symm) fun hv _ => by
    simp [validArg, exact, isU64] at hv ⊢; omega

theorem durToStd_sound (a b : Int) : ok .durToStd a b (durationToStd a) = true := by
  refine ok_guard fun hv => ok_ok hv rfl ?_
  simp [validArg, exact, isU64] at hv ⊢; omega

theorem instantNew_sound (a b : Int) : ok .instantNew a b (instantNew a b) = true :=
  ok_test_rej ok_panic (fun _ => by simp [representable]) fun _ _ => by simp [exact]

theorem sysToInstant_sound (a b : Int) : ok .sysToInstant a b (systemTimeToInstant a b) = true :=
  ok_test_rej ok_panic (fun _ => by simp [representable]) fun hv _ => by
    simp [validArg, exact, isU64, isI64] at hv ⊢; omega

theorem instantToSys_sound (a b : Int) : ok .instantToSys a b (instantToSystemTime a b) = true := by
  refine ok_guard fun hv => ?_
  split
  next hr => exact ok_panic hv (by simp [representable]; omega)
  next hr =>
    split
    next hs =>
      exact ok_ok hv (by simp [representable]; omega)
        (by simp [validArg, exact, isU64, isI64, isU32] at hv ⊢; omega)
    next hs => exact ok_panic hv (by simp [representable]; omega)

theorem tdToDur_sound (a b : Int) : ok .tdToDur a b (timeDeltaToDuration a b) = true := by
  refine ok_guard fun hv => ?_
  dsimp only
  split
  next hr => exact ok_err hv (by simp [representable, isI64] at hr ⊢; omega)
  next hr =>
    split
    next hs => exact ok_err hv (by simp [representable]; omega)
    next hs =>
      exact ok_ok hv (by simp [representable, isI64] at hr ⊢; omega)
        (by simp [exact, isU64, isI64] at hr ⊢; omega)

theorem durToTd_sound (a b : Int) : ok .durToTd a b (durationToTimeDelta a) = true :=
  ok_test ok_err (fun _ => decide_eq_true_iff.symm) fun hv _ => by
    simp [validArg, exact, isU64, isTimeDelta] at hv ⊢; omega

theorem instantToDt_sound (a b : Int) : ok .instantToDt a b (instantToDateTime a b) = true := by
  refine ok_guard fun hv => ?_
  split
  next hr => exact ok_err hv (by simp [representable] at hr ⊢; omega)
  next hr =>
    split
    next hd => exact ok_ok hv (by simp [representable, hd] at hr ⊢; omega) (by simp [exact, hd])
    next hd => exact ok_err hv (by simp [representable, hd])

theorem dtToInstant_sound (a b : Int) : ok .dtToInstant a b (dateTimeToInstant a b) = true :=
  ok_test_rej ok_err (fun _ => by simp [representable]) fun hv _ => by
    simp [validArg, exact, isU64, isU32, isDateTime] at hv ⊢; omega

/-- Full statement of C19 on the model, all functions, all inputs. -/
theorem C19_conv_sound (f : Fn) (a b : Int) : S.Conv.ok f a b (M.Conv.run f a b) = true := by
  cases f
  case fromMillis => exact fromMillis_sound a b
  case fromSecs => exact fromSecs_sound a b
  case stdToDur => exact stdToDur_sound a b
  case durToStd => exact durToStd_sound a b
  case instantNew => exact instantNew_sound a b
  case sysToInstant => exact sysToInstant_sound a b
  case instantToSys => exact instantToSys_sound a b
  case tdToDur => exact tdToDur_sound a b
  case durToTd => exact durToTd_sound a b
  case instantToDt => exact instantToDt_sound a b
  case dtToInstant => exact dtToInstant_sound a b

/-- Exactness: whatever is accepted is a well-formed target value denoting the same quantity. -/
theorem C19_exact (f : Fn) (a b : Int) (vs : List Int) (h : M.Conv.run f a b = .ok vs) :
    validArg f a b = true ∧ representable f a b = true ∧ exact f a b vs = true := by
  have hs := C19_conv_sound f a b
  rw [h] at hs
  unfold S.Conv.ok at hs
  by_cases hv : validArg f a b = true
  · simp [hv] at hs; exact ⟨hv, hs.1, hs.2⟩
  · simp [hv] at hs

/-- Explicit rejection: a value the target type cannot hold is never converted. -/
theorem C19_explicit (f : Fn) (a b : Int) (hv : validArg f a b = true) (hr : representable f a b = false) :
    (∃ e, M.Conv.run f a b = .err e) ∨ (∃ c, M.Conv.run f a b = .panic c) := by
  have hs := C19_conv_sound f a b
  unfold S.Conv.ok at hs
  simp only [hv, Bool.not_true, Bool.false_eq_true, if_false] at hs
  cases hm : M.Conv.run f a b with
  | ok vs => rw [hm] at hs; simp [hr] at hs
  | err e => exact Or.inl ⟨e, rfl⟩
  | panic c => exact Or.inr ⟨c, rfl⟩
  | skip => rw [hm] at hs; simp at hs

/-- Totality on values: every value of the source type gets an outcome other than `skip`;
    representable ones are converted (no over-rejection). -/
theorem C19_representable_converted (f : Fn) (a b : Int) (hv : validArg f a b = true)
    (hr : representable f a b = true) : ∃ vs, M.Conv.run f a b = .ok vs ∧ exact f a b vs = true := by
  have hs := C19_conv_sound f a b
  unfold S.Conv.ok at hs
  simp only [hv, Bool.not_true, Bool.false_eq_true, if_false] at hs
  cases hm : M.Conv.run f a b with
  | ok vs => rw [hm] at hs; simp [hr] at hs; exact ⟨vs, rfl, hs⟩
  | err e => rw [hm] at hs; simp [hr] at hs
  | panic c => rw [hm] at hs; simp [hr] at hs
  | skip => rw [hm] at hs; simp at hs

/-! Instances at the three repaired sites (readable form). -/

/-- `std::time::Duration → Duration` never wraps: above `u64::MAX` ns it panics. -/
theorem std_to_duration_no_wrap (s n : Int) (hs : 0 ≤ s ∧ s < 18446744073709551616) (hn : 0 ≤ n ∧ n < 1000000000)
    (hbig : 18446744073709551616 ≤ s * 1000000000 + n) :
    stdToDuration s n = .panic "duration overflow" := by
  simp [stdToDuration, isU64, hs, hn, Int.not_lt.2 hbig]

/-- `TimeDelta → Duration` rejects every negative delta. -/
theorem timedelta_negative_rejected (secs nanos : Int) (hv : isTimeDelta secs nanos = true)
    (hneg : secs * 1000000000 + nanos < 0) : timeDeltaToDuration secs nanos = .err "InvalidDuration" := by
  simp [timeDeltaToDuration, hv, hneg]

/-- `Instant → SystemTime` rejects an invalid sub-second part instead of carrying it into the seconds. -/
theorem instant_invalid_nanos_rejected (s n : Int) (hs : isU64 s = true) (hn : isU32 n = true)
    (hbad : 1000000000 ≤ n) : instantToSystemTime s n = .panic "nanos must be less than" := by
  simp [instantToSystemTime, hs, hn, hbad]

/-! Non-vacuity: the hypotheses above are met by concrete values, and the specification
    does reject the outcomes the pinned tree produced (these are *tests* of the oracle, by evaluation). -/
example : validArg .stdToDur 18446744078 0 = true ∧ representable .stdToDur 18446744078 0 = false := by decide
example : S.Conv.ok .stdToDur 18446744078 0 (.ok [4290448384]) = false := by decide
example : S.Conv.ok .tdToDur (-1) 999999995 (.ok [18446744073709551611]) = false := by decide
example : S.Conv.ok .instantToSys 1 2000000000 (.ok [3, 0]) = false := by decide
example : M.Conv.run .stdToDur 5 7 = .ok [5000000007] := by decide
example : M.Conv.run .instantToDt 1000000000 10 = .ok [1000000000, 10] := by decide

end Props.C19
