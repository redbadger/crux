/-
C07 — a command is done exactly when nothing more can happen.
Model: `runTaskF` (executor.rs:187-229), `isDoneNow` (mod.rs:436-440), `pollNextF` (stream.rs:23-52).
-/
import CruxVerif.Lemmas.RtTask
import CruxVerif.Lemmas.K2Evict
import CruxVerif.Lemmas.EvictComplete
import CruxVerif.Lemmas.FreshUse
import CruxVerif.Lemmas.RRun
import CruxVerif.Lemmas.Park
import CruxVerif.Lemmas.GPark
import CruxVerif.Lemmas.RCore
import CruxVerif.Lemmas.LQ
import CruxVerif.Lemmas.Complete
import CruxVerif.Lemmas.CompleteS
namespace Props.C07
open M.Rt

/-- a task is discarded as `Cancelled` only if its poll returned pending, its waker was not woken during the poll and
    no clone of that waker survives anywhere (leaf channel, join-handle queue, hosted command) -/
theorem evict_only_if_unreachable (poll : Waker → Sink → Block → World → Option (PollRes × World)) (cid tid : Nat)
    (w w' : World) (h : runTaskF poll cid tid w = some (.cancelled, w')) :
    ∃ t b w1, (w.cmd cid).tasks.get? tid = some t ∧
      poll (.task cid tid w.nextSerial) (.cmd cid) t.fut { w with nextSerial := w.nextSerial + 1 } = some (.pending b, w1) ∧
      w1.woken.contains w.nextSerial = false ∧ w'.holders w.nextSerial = 0 := runTaskF_cancelled poll cid tid w w' h

/-- a task something still holds a waker of is never discarded -/
theorem held_task_never_discarded (poll : Waker → Sink → Block → World → Option (PollRes × World)) (cid tid : Nat)
    (w w' : World) (st : TaskState) (h : runTaskF poll cid tid w = some (st, w'))
    (hheld : w'.holders w.nextSerial ≠ 0) : st ≠ .cancelled := runTaskF_not_evicted_if_held poll cid tid w w' st h hheld

/-- **Eviction is sound** (invariant K2, "no lost wake-up at a leaf"): when `run_task` discards a task whose future is a
    block of the task language without hosted commands (every block a user task can be; ids in range), the future is
    suspended only at requests whose channel has already closed — `deadOnlyB`. Contrapositive: while a request, a stream,
    a join handle or a pending self-wake the task waits on is alive, the task is not discarded, because one poll leaves
    the polling waker registered at every such point (`pollBlock_good`). Holds for every fuel and every world. -/
theorem evict_sound (pn : Waker → Nat → World → Option (NextRes × World)) (f : Nat) (cid tid : Nat) (w w' : World)
    (h : runTaskF (pollBlock pn f) cid tid w = some (.cancelled, w')) :
    ∃ t b w1, (w.cmd cid).tasks.get? tid = some t ∧
      pollBlock pn f (.task cid tid w.nextSerial) (.cmd cid) t.fut { w with nextSerial := w.nextSerial + 1 } = some (.pending b, w1) ∧
      (hostFreeB t.fut = true → inRangeB w.leaves.length w.metas.length t.fut = true → deadOnlyB b = true) :=
  evicted_task_is_dead pn f cid tid w w' h

/-- the same for the executor as instantiated (`runTask`, nesting depth `depthFuel`) -/
theorem evict_sound_runTask (cid tid : Nat) (w w' : World) (h : runTask cid tid w = some (.cancelled, w')) :
    ∃ t b, (w.cmd cid).tasks.get? tid = some t ∧
      (hostFreeB t.fut = true → inRangeB w.leaves.length w.metas.length t.fut = true → deadOnlyB b = true) := by
  obtain ⟨t, b, _, hg, _, hd⟩ := evicted_task_is_dead _ loopFuel cid tid w w' h
  exact ⟨t, b, hg, hd⟩

/-- `evict_sound` in a world whose stored tasks mention only leaves and join handles that exist (`WFw`, which every
    reachable world satisfies): the range hypothesis is discharged, the evicting poll is still named -/
theorem evict_sound_of_wf {w : World} (hw : WFw w) (pn : Waker → Nat → World → Option (NextRes × World)) (f : Nat)
    (cid tid : Nat) (w' : World) (h : runTaskF (pollBlock pn f) cid tid w = some (.cancelled, w')) :
    ∃ t b w1, (w.cmd cid).tasks.get? tid = some t ∧
      pollBlock pn f (.task cid tid w.nextSerial) (.cmd cid) t.fut { w with nextSerial := w.nextSerial + 1 } = some (.pending b, w1) ∧
      (hostFreeB t.fut = true → deadOnlyB b = true) :=
  let ⟨t, b, w1, hg, hp, hd⟩ := evicted_task_is_dead pn f cid tid w w' h
  ⟨t, b, w1, hg, hp, fun hf => hd hf (hw.t cid t (M.Slab.mem_values_of_get _ _ _ hg))⟩

/-- SOUNDNESS OF EVICTION OVER WHOLE RUNS — the well-formedness hypothesis of `evict_sound` discharged: for ANY command (any
    nesting of combinators, any task bodies) held directly by a test, after EVERY history of resolutions, drops, aborts and
    polls, whenever `run_task` discards a host-free task of any command as `Cancelled`, the task was suspended only at requests
    whose channel has already closed — no request, stream, join handle or self-wake it waits on could still wake it.
    Global invariant `WFw` (Lemmas/RFrame, RPoll, RRun ≈ 470 lines): every leaf id and join-handle id mentioned by any
    stored or queued task of any command exists — carried through one poll of ANY block (also blocks hosting commands) by a
    single `grind` call over `pollBlock`, then through the executor, the nesting knot, command building and the shell. -/
theorem evict_sound_reachable (c : Cmd) (canon : Bool) (acts : List M.Hosts.Action) (os : List M.Hosts.Obs)
    (d : M.Hosts.Direct) (hrun : M.Hosts.runDirect c canon acts = some (os, d)) (cid tid : Nat) (w' : World)
    (h : runTask cid tid d.w = some (.cancelled, w')) :
    ∃ t b, (d.w.cmd cid).tasks.get? tid = some t ∧ (hostFreeB t.fut = true → deadOnlyB b = true) :=
  let ⟨t, b, _, hg, _, hd⟩ := evict_sound_of_wf (M.Hosts.runDirect_wf c canon acts os d hrun) _ loopFuel cid tid w' h
  ⟨t, b, hg, hd⟩

/-- the same under the CORE host and behind the BRIDGE, for EVERY app (any commands, any legacy capability tasks): in every
    state reached after any history of events, resolutions, drops, aborts, probes — and, behind the Bridge, raw and
    undecodable inputs — a host-free task that `run_task` discards as `Cancelled` was suspended only at closed requests
    (invariant `WFC`: commands' tasks, the executor's legacy tasks and its spawn queue are in range; Lemmas/RCore.lean;
    lifted to the Bridge by `bridge_preserves_core_invariants`) -/
theorem evict_sound_reachable_core (prog : M.Hosts.Prog) (canon : Bool) (acts : List M.Hosts.Action) (os : List M.Hosts.Obs)
    (h : M.Hosts.CoreHost) (hr : M.Hosts.runCore prog canon acts = some (os, h)) (cid tid : Nat) (w' : World)
    (hc : runTask cid tid h.k.w = some (.cancelled, w')) :
    ∃ t b, (h.k.w.cmd cid).tasks.get? tid = some t ∧ (hostFreeB t.fut = true → deadOnlyB b = true) :=
  let ⟨t, b, _, hg, _, hd⟩ := evict_sound_of_wf
    (M.Hosts.runCore_inv M.Hosts.WFC_ops prog (M.Hosts.WFC_init prog) canon acts os h hr).w _ loopFuel cid tid w' hc
  ⟨t, b, hg, hd⟩

theorem evict_sound_reachable_bridge (prog : M.Hosts.Prog) (canon : Bool) (acts : List M.Hosts.Action)
    (os : List M.Hosts.Obs) (h : M.Hosts.BridgeHost) (hr : M.Hosts.runBridge prog canon acts = some (os, h))
    (cid tid : Nat) (w' : World) (hc : runTask cid tid h.b.core.w = some (.cancelled, w')) :
    ∃ t b, (h.b.core.w.cmd cid).tasks.get? tid = some t ∧ (hostFreeB t.fut = true → deadOnlyB b = true) :=
  let ⟨t, b, _, hg, _, hd⟩ := evict_sound_of_wf
    (M.Hosts.runBridge_inv M.Hosts.WFC_ops prog (M.Hosts.WFC_init prog) canon acts os h hr).w _ loopFuel cid tid w' hc
  ⟨t, b, hg, hd⟩

/-- freshness of waker serials behind the Bridge as well (the third host) -/
theorem serials_fresh_bridge (prog : M.Hosts.Prog) (canon : Bool) (acts : List M.Hosts.Action) (os : List M.Hosts.Obs)
    (h : M.Hosts.BridgeHost) (hr : M.Hosts.runBridge prog canon acts = some (os, h)) : SOk h.b.core.w :=
  M.Hosts.runBridge_fresh prog canon acts os h hr

/-- the invariant itself: in every reachable world every stored task of every command mentions only leaves and join handles
    that exist -/
theorem stored_blocks_well_formed (c : Cmd) (canon : Bool) (acts : List M.Hosts.Action) (os : List M.Hosts.Obs)
    (d : M.Hosts.Direct) (hrun : M.Hosts.runDirect c canon acts = some (os, d)) (cid : Nat) (t : Task)
    (ht : t ∈ (d.w.cmd cid).tasks.values ∨ t ∈ (d.w.cmd cid).spawnQ) :
    inRangeB d.w.leaves.length d.w.metas.length t.fut = true := by
  have w := M.Hosts.runDirect_wf c canon acts os d hrun
  rcases ht with ht | ht
  · exact w.t cid t ht
  · exact w.s cid t ht

/-- **EVERY STORED TASK IS QUEUED OR PARKED — over whole runs.** For every host-free task program (any number of spawned
    tasks, `join!`, `select!`, streams, hand-offs, join handles, self-wakes, self-aborts) held directly by a test, after EVERY
    history of resolutions, drops, aborts and polls, every task in the command's slab is
      * on the ready queue (it will be polled by the next `run_until_settled`), or
      * aborted through its join handle, or
      * LIVE-PARKED: the waker of its last poll is registered at every request leaf, stream leaf and join-handle queue the
        task is suspended at (`LPB`) — whatever happens at any of those points wakes exactly this task.
    So a task that is kept is never stranded: "not done" means that something can still happen. Global invariant `GInv`
    (Lemmas/PFrame, WPoll, Park, GPark ≈ 1250 lines) = K2 (the polled task parks itself) + `poll_keeps_others_parked`
    (ownership of channels: C02 `Own`) + `woken_means_queued` (freshness: `serials_fresh_direct`) + well-formedness (`WFw`),
    through run_task, finishing (join-handle wake-ups), spawning, settling, and the shell's resolve / drop / abort
    (taking a leaf's waker wakes exactly the task parked there). -/
theorem stored_task_queued_or_parked (is : List Instr) (hf : hostFreeIs is = true) (canon : Bool)
    (acts : List M.Hosts.Action) (os : List M.Hosts.Obs) (d : M.Hosts.Direct)
    (h : M.Hosts.runDirect (.task is) canon acts = some (os, d)) (tid : Nat) (t : Task)
    (hg : (d.w.cmd d.cid).tasks.get? tid = some t) :
    tid ∈ (d.w.cmd d.cid).ready ∨ (d.w.getMeta t.serial).aborted = true ∨ ∃ s, LPB (.task d.cid tid s) d.w t.fut :=
  (M.Hosts.runDirect_gp is hf canon acts os d h).gp tid t hg (fun e => by cases e)

/-- … in particular, once the command is settled (empty ready queue — the state every `effects()` / `events()` / `is_done()`
    leaves it in), every stored task that was not aborted waits at live registrations of its own waker -/
theorem settled_tasks_are_parked (is : List Instr) (hf : hostFreeIs is = true) (canon : Bool)
    (acts : List M.Hosts.Action) (os : List M.Hosts.Obs) (d : M.Hosts.Direct)
    (h : M.Hosts.runDirect (.task is) canon acts = some (os, d)) (hr : (d.w.cmd d.cid).ready = [])
    (tid : Nat) (t : Task) (hg : (d.w.cmd d.cid).tasks.get? tid = some t) (hna : (d.w.getMeta t.serial).aborted = false) :
    ∃ s, LPB (.task d.cid tid s) d.w t.fut := by
  rcases stored_task_queued_or_parked is hf canon acts os d h tid t hg with h1 | h1 | h1
  · rw [hr] at h1; cases h1
  · rw [hna] at h1; cases h1
  · exact h1

/-- A POLL DOES NOT DISTURB THE PARKING OF OTHER TASKS: one poll of a host-free block `b0` (any waker, sink, fuel, world)
    leaves every block `b1` that references none of `b0`'s channels (channels are unshared: C02) parked exactly where it
    was — its waker still registered at every request / stream leaf and join-handle queue it is suspended at. With
    `poll_parks` (the polled task parks itself) this is the induction step of "every stored task is queued or parked".
    Frames `LFGood` / `JRGood` of Lemmas/WPoll.lean (instances of the poll induction of Lemmas/PollFrame.lean). -/
theorem poll_keeps_others_parked (pn : Waker → Nat → World → Option (NextRes × World)) (f : Nat) (wk0 : Waker) (sink : Sink)
    (b0 : Block) (w : World) (r : PollRes) (w' : World) (h : pollBlock pn f wk0 sink b0 w = some (r, w'))
    (hf : hostFreeB b0 = true) (wk1 : Waker) (b1 : Block) (hr1 : inRangeB w.leaves.length w.metas.length b1 = true)
    (hdis : ∀ l ∈ refsB b1, l ∉ refsB b0) (hp : LPB wk1 w b1) : LPB wk1 w' b1 :=
  M.Rt.poll_keeps_others_parked pn f wk0 sink b0 w r w' h hf wk1 b1 hr1 hdis hp

/-- WOKEN MEANS QUEUED: in a fresh world (every reachable world is: `serials_fresh_direct/_core`), after one poll of a
    host-free task of a live command with the waker `run_task` hands out, if that poll's serial is flagged `woken` then the
    task id IS on the command's ready queue — whoever woke it (a self-wake, a sibling finishing, an abort walking the chain).
    So a task `run_task` keeps as `Suspended` because its waker was used during its own poll will be polled again. -/
theorem woken_means_queued (pn : Waker → Nat → World → Option (NextRes × World)) (f : Nat) (cid tid : Nat) (w : World)
    (b : Block) (r : PollRes) (w1 : World)
    (h : pollBlock pn f (.task cid tid w.nextSerial) (.cmd cid) b { w with nextSerial := w.nextSerial + 1 } = some (r, w1))
    (hf : hostFreeB b = true) (hs : SOk w) (hal : (w.cmd cid).alive = true) (hin : cid < w.cmds.length)
    (hw : w.nextSerial ∈ w1.woken) : tid ∈ (w1.cmd cid).ready :=
  M.Rt.woken_means_queued pn f cid tid w b r w1 h hf hs hal hin hw

/-- a parked block whose waker was not used is parked at LIVE registrations (`LPB`: a pending self-wake does not count) -/
theorem parked_unwoken_is_live (wk : Waker) (w : World) (hnw : ¬ wokenBy wk w) (b : Block) (h : ParkedB wk w b) : LPB wk w b :=
  LPB_of_parked wk w hnw b h

/-- one poll of a host-free block leaves the polling waker registered at every point the block is suspended at
    (or the point is a closed request), and touches other registrations only monotonically -/
theorem poll_parks (pn : Waker → Nat → World → Option (NextRes × World)) (f : Nat) (wk : Waker) (sink : Sink) (b b' : Block)
    (w w' : World) (h : pollBlock pn f wk sink b w = some (.pending b', w')) (hf : hostFreeB b = true)
    (hr : inRangeB w.leaves.length w.metas.length b = true) :
    ParkedB wk w' b' ∧ hostFreeB b' = true ∧ inRangeB w'.leaves.length w'.metas.length b' = true :=
  (pollBlock_good pn f wk sink b w _ w' h hf hr).2

/-- non-vacuity: a task waiting on a request whose sender is gone is evicted, and the hypotheses of `evict_sound` hold -/
def exWorld : World :=
  { cmds := [{ tasks := ((M.Slab.empty : M.Slab Task).insert ⟨0, .mk {} (.req 0 0) []⟩).2, abortFlag := 0 }],
    leaves := [{ senderAlive := false }], metas := [{}] }
example : (runTaskF (pollBlock (fun _ _ _ => none) 2) 0 0 exWorld).map (·.1) = some .cancelled := by decide
example : hostFreeB (.mk {} (.req 0 0) []) = true ∧ inRangeB 1 1 (.mk {} (.req 0 0) []) = true := by decide

/-- done ⇔ no task remains and no output is pending -/
theorem done_iff (w : World) (cid : Nat) :
    w.isDoneNow cid = true ↔ (w.cmd cid).effects = [] ∧ (w.cmd cid).events = [] ∧ (w.cmd cid).tasks.isEmpty = true :=
  isDoneNow_iff w cid

/-- a host sees the end of a command only when it is done, and `Pending` only when it is not -/
theorem host_sees_done_exactly (settle : Nat → World → Option World) (wk : Waker) (cid : Nat) (w w' : World) :
    (pollNextF settle wk cid w = some (.finished, w') → w'.isDoneNow cid = true) ∧
    (pollNextF settle wk cid w = some (.pending, w') → w'.isDoneNow cid = false) :=
  ⟨pollNextF_finished settle wk cid w w', pollNextF_pending settle wk cid w w'⟩

/-- COMPLETENESS of eviction, the one-request case (`…_partial`: the full statement `evict_complete_anywhere` below quantifies
    over whole commands): a task suspended at a one-shot request (command API) whose `Request` the shell has dropped is
    discarded as `Cancelled` by its next poll — the poll learns that the channel is closed and registers no waker — given
    that the serial handed to this poll's waker is fresh (held nowhere, not flagged; serials come from a counter) and
    the task has not been aborted. Together with `finishTask` this is what lets a command report done after a drop. -/
theorem evict_complete_dropped_request_partial (pn : Waker → Nat → World → Option (NextRes × World)) (f : Nat)
    (cid tid : Nat) (w : World) (t : Task) (env : Env) (x l : Nat) (rest : List Instr)
    (hg : (w.cmd cid).tasks.get? tid = some t) (hfut : t.fut = .mk env (.req x l) rest)
    (hab : (w.getMeta t.serial).aborted = false)
    (hq : (w.leaf l).queue = []) (hs : (w.leaf l).senderAlive = false) (hl : (w.leaf l).legacy = false)
    (hfresh : w.holders w.nextSerial = 0) (hnw : w.woken.contains w.nextSerial = false) :
    (runTaskF (pollBlock pn (f + 1)) cid tid w).map (·.1) = some .cancelled :=
  dropped_request_evicts pn f cid tid w t env x l rest hg hfut hab hq hs hl hfresh hnw

/-- GLOBAL INVARIANT (Lemmas/Fresh*.lean, ≈600 lines: every operation of the model — wakes, drops, every poll including
    hosted commands at every nesting depth, run_task, run_until_settled, poll_next, building commands, the shell's resolve /
    drop / abort, the Core's executor and event loop — preserves it): in EVERY world the direct host of ANY command reaches
    after ANY history, and in every world a Core hosting ANY app reaches, every waker serial that occurs anywhere is below
    the counter `nextSerial`. Hence the serial `run_task` hands to a poll is held by nothing and flagged nowhere before the
    poll: `World.holders` (the model of `Arc::strong_count` of the poll's waker) counts clones of THIS poll's waker only. -/
theorem serials_fresh_direct (c : Cmd) (canon : Bool) (acts : List M.Hosts.Action) (os : List M.Hosts.Obs) (d : M.Hosts.Direct)
    (h : M.Hosts.runDirect c canon acts = some (os, d)) :
    SOk d.w ∧ d.w.holders d.w.nextSerial = 0 ∧ d.w.woken.contains d.w.nextSerial = false :=
  ⟨M.Hosts.runDirect_fresh c canon acts os d h, (M.Hosts.runDirect_fresh c canon acts os d h).next_unheld⟩

theorem serials_fresh_core (prog : M.Hosts.Prog) (canon : Bool) (acts : List M.Hosts.Action) (os : List M.Hosts.Obs)
    (h : M.Hosts.CoreHost) (hr : M.Hosts.runCore prog canon acts = some (os, h)) :
    SOk h.k.w ∧ h.k.w.holders h.k.w.nextSerial = 0 ∧ h.k.w.woken.contains h.k.w.nextSerial = false :=
  ⟨M.Hosts.runCore_fresh prog canon acts os h hr, (M.Hosts.runCore_fresh prog canon acts os h hr).next_unheld⟩

/-- COMPLETENESS of eviction for a dropped request, in REACHABLE worlds (no freshness hypothesis left): whatever command a
    test holds and whatever it did so far, a task of it that is suspended at a one-shot request whose `Request` has been
    dropped, and has not been aborted, is discarded as `Cancelled` by its next poll. -/
theorem evict_complete_dropped_request_reachable (c : Cmd) (canon : Bool) (acts : List M.Hosts.Action)
    (os : List M.Hosts.Obs) (d : M.Hosts.Direct) (hrun : M.Hosts.runDirect c canon acts = some (os, d))
    (pn : Waker → Nat → World → Option (NextRes × World)) (f : Nat) (cid tid : Nat) (t : Task) (env : Env) (x l : Nat)
    (rest : List Instr) (hg : (d.w.cmd cid).tasks.get? tid = some t) (hfut : t.fut = .mk env (.req x l) rest)
    (hab : (d.w.getMeta t.serial).aborted = false)
    (hq : (d.w.leaf l).queue = []) (hs : (d.w.leaf l).senderAlive = false) (hl : (d.w.leaf l).legacy = false) :
    (runTaskF (pollBlock pn (f + 1)) cid tid d.w).map (·.1) = some .cancelled := by
  have hf := (M.Hosts.runDirect_fresh c canon acts os d hrun).next_unheld
  exact dropped_request_evicts pn f cid tid d.w t env x l rest hg hfut hab hq hs hl hf.1 hf.2

/-- the first statement of completeness of eviction that was tried: in ANY world in which every request channel is closed and
    empty, settling a command leaves it done. **REFUTED** (`evict_complete_anywhere_false` below), also for reachable worlds. -/
def evict_complete_anywhere : Prop :=
  ∀ (w : World) (cid : Nat), (∀ l, l < w.leaves.length → (w.leaf l).senderAlive = false ∧ (w.leaf l).queue = []) →
    ∀ w', runUntilSettled cid w = some w' → w'.isDoneNow cid = true

/-! ### Completeness of eviction is FALSE once a request future changes hands

Found while trying to prove `evict_complete_anywhere`: `LPB` has no conclusion for a task that is pending only at requests whose
channel has closed — such a task is retained iff a clone of its last waker survives *at the moment of the check*, and nothing
keeps that clone alive afterwards. The witness below was then replayed on the implementation (corpus/C07/handoff-stranded,
known finding `handed-off-request-strands-first-poller`): a task awaits request A, then polls request H once and moves it to a
spawned task, joined with a wait for request B. The shell drops B, resolves A, resolves H. The poll after A leaves the first
task pending on the dead B only, but its waker is still registered in H's channel, so `run_task` keeps it; the spawned task's
first poll replaces that registration. Now nobody holds a waker of the first task: it is never polled again, never evicted,
and the command never reports done although every request has been resolved or dropped. -/
def handoffProg : List Instr :=
  [.join [.req 1 1 (.lit 1), .handoff 2 2 (.lit 2) [.emit 10 (.var 2)]] [.req 3 3 (.lit 3)]]
def handoffActs : List M.Hosts.Action := [.drop 1, .res 0 101, .res 2 102, .poll]

/-- every request channel of the world is closed (resolved one-shot or dropped) and empty -/
def allGone (w : World) : Bool := w.leaves.all fun lf => !lf.senderAlive && lf.queue.isEmpty

theorem allGone_spec (w : World) (h : allGone w = true) (l : Nat) (hl : l < w.leaves.length) :
    (w.leaf l).senderAlive = false ∧ (w.leaf l).queue = [] := by
  unfold allGone at h
  rw [List.all_eq_true] at h
  have := h (w.leaves[l]) (List.getElem_mem hl)
  simp only [World.leaf, List.getElem?_eq_getElem hl, Option.getD_some]
  simpa using this

/-- the witness, by kernel evaluation of the model (a test of ONE history — which is all a refutation needs): a host-free
    task program and a history after which every channel is closed and empty, the ready queue is empty, one task is still
    stored, and settling again does not make the command done -/
theorem completeness_fails_with_handoff :
    ∃ os d w', M.Hosts.runDirect (.task handoffProg) false handoffActs = some (os, d) ∧ hostFreeIs handoffProg = true ∧
      allGone d.w = true ∧ (d.w.cmd d.cid).ready = [] ∧ (d.w.cmd d.cid).tasks.len = 1 ∧
      runUntilSettled d.cid d.w = some w' ∧ w'.isDoneNow d.cid = false := by
  have h : ((M.Hosts.runDirect (.task handoffProg) false handoffActs).bind fun r =>
      (runUntilSettled r.2.cid r.2.w).map fun w' =>
        (allGone r.2.w, (r.2.w.cmd r.2.cid).ready, (r.2.w.cmd r.2.cid).tasks.len, w'.isDoneNow r.2.cid)) =
      some (true, [], 1, false) := by decide +kernel
  cases hr : M.Hosts.runDirect (.task handoffProg) false handoffActs with
  | none => rw [hr] at h; cases h
  | some p =>
    obtain ⟨os, d⟩ := p
    rw [hr] at h
    simp only [Option.bind_some] at h
    cases hs : runUntilSettled d.cid d.w with
    | none => rw [hs] at h; cases h
    | some w' =>
      rw [hs] at h
      simp only [Option.map_some, Option.some.injEq, Prod.mk.injEq] at h
      exact ⟨os, d, w', rfl, by decide, h.1, h.2.1, h.2.2.1, hs, h.2.2.2⟩

theorem evict_complete_anywhere_false : ¬ evict_complete_anywhere := by
  intro hg
  obtain ⟨os, d, w', _, _, hall, _, _, hs, hd⟩ := completeness_fails_with_handoff
  have := hg d.w d.cid (fun l hl => allGone_spec d.w hall l hl) w' hs
  rw [hd] at this
  cases this

/-- **A REGISTERED WAKER MEANS A LIVE SENDER — over whole runs** (global invariant `LQ`, Lemmas/LQ.lean: an instance `lq_ops` of the poll
    induction `pollBlock_inv`, then `run_task`, finishing, spawning, settling, the shell's resolve / drop / abort). For every host-free task
    program under the direct host, after every history: a request or stream channel in which a waker is registered still has
    its sender (the `Request` the shell holds, not yet resolved-and-consumed nor dropped). The receiving side registers only
    after it has seen the sender alive; the sending side takes the waker when it resolves or goes away. -/
theorem registered_waker_means_live_sender (is : List Instr) (hf : hostFreeIs is = true) (canon : Bool)
    (acts : List M.Hosts.Action) (os : List M.Hosts.Obs) (d : M.Hosts.Direct)
    (h : M.Hosts.runDirect (.task is) canon acts = some (os, d)) (l : Nat) (k : Waker) (hk : (d.w.leaf l).waker = some k) :
    (d.w.leaf l).senderAlive = true ∨ (d.w.leaf l).legacy = true :=
  (M.Hosts.runDirect_gl is hf canon acts os d h).2 l k hk

/-- **WHAT IS LEFT WHEN EVERY REQUEST IS GONE** (the provable half of completeness). For every host-free task program under
    the direct host, after every history that leaves the command settled (empty ready queue) and every channel closed: every
    task still stored (and not aborted through its join handle) is suspended ONLY at requests whose channel it has already
    seen closed (`reqDead`), at join handles or at hosted commands — at no request or stream the shell could still answer,
    and at no channel whose closing it has not noticed (that closing woke it: `GInv` + `LQ`). Such a task is exactly what
    `run_task` evicts when it polls it; what the code lacks — and `completeness_fails_with_handoff` exploits — is anything
    that polls it again. -/
theorem all_requests_gone_leaves_only_dead_waits (is : List Instr) (hf : hostFreeIs is = true) (canon : Bool)
    (acts : List M.Hosts.Action) (os : List M.Hosts.Obs) (d : M.Hosts.Direct)
    (h : M.Hosts.runDirect (.task is) canon acts = some (os, d)) (hr : (d.w.cmd d.cid).ready = [])
    (hall : ∀ l, l < d.w.leaves.length → (d.w.leaf l).senderAlive = false ∧ (d.w.leaf l).legacy = false)
    (tid : Nat) (t : Task) (hg : (d.w.cmd d.cid).tasks.get? tid = some t) (hna : (d.w.getMeta t.serial).aborted = false) :
    goneOnlyB t.fut = true := by
  obtain ⟨s, hp⟩ := settled_tasks_are_parked is hf canon acts os d h hr tid t hg hna
  exact goneOnly_of_parked _ d.w (M.Hosts.runDirect_gl is hf canon acts os d h).2 hall t.fut hp

/-- … and a stored task that still waits at a request or stream names a channel the shell can still resolve or drop: some
    sender is alive (contrapositive, the form a user relies on: a command that is not done while requests are outstanding
    is waiting for one of THEM) -/
theorem task_waiting_at_request_has_live_sender (is : List Instr) (hf : hostFreeIs is = true) (canon : Bool)
    (acts : List M.Hosts.Action) (os : List M.Hosts.Obs) (d : M.Hosts.Direct)
    (h : M.Hosts.runDirect (.task is) canon acts = some (os, d)) (hr : (d.w.cmd d.cid).ready = [])
    (tid : Nat) (t : Task) (hg : (d.w.cmd d.cid).tasks.get? tid = some t) (hna : (d.w.getMeta t.serial).aborted = false)
    (hw : goneOnlyB t.fut = false) :
    ∃ l, l < d.w.leaves.length ∧ ((d.w.leaf l).senderAlive = true ∨ (d.w.leaf l).legacy = true) := by
  obtain ⟨s, hp⟩ := settled_tasks_are_parked is hf canon acts os d h hr tid t hg hna
  obtain ⟨l, hl, hk⟩ := live_point_of_parked _ d.w t.fut hp hw
  exact ⟨l, hl, (M.Hosts.runDirect_gl is hf canon acts os d h).2 l _ hk⟩

/-- non-vacuity, and the link to the refutation: the task stranded by the handoff history is such a task — every channel
    closed and non-legacy, ready queue empty, its block `join(done, reqDead)` (kernel evaluation) -/
example : ((M.Hosts.runDirect (.task handoffProg) false handoffActs).map fun r =>
    (r.2.w.leaves.all (fun lf => !lf.senderAlive && !lf.legacy), (r.2.w.cmd r.2.cid).ready,
     (r.2.w.cmd r.2.cid).tasks.values.map (fun t => goneOnlyB t.fut && !(r.2.w.getMeta t.serial).aborted))) =
    some (true, [], [true]) := by decide +kernel

/-- a slot whose task would be charged to a channel with a live sender is empty once every sender is gone -/
theorem no_task_of_charged {w : World} {c tid : Nat}
    (hall : ∀ l, l < w.leaves.length → (w.leaf l).senderAlive = false ∧ (w.leaf l).legacy = false)
    (hch : ∀ t, (w.cmd c).tasks.get? tid = some t → ∃ l s, l < w.leaves.length ∧ (w.leaf l).waker = some (.task c tid s) ∧
      ((w.leaf l).senderAlive = true ∨ (w.leaf l).legacy = true)) : (w.cmd c).tasks.get? tid = none := by
  cases hg : (w.cmd c).tasks.get? tid with
  | none => rfl
  | some t =>
    obtain ⟨l, _, hl, _, ha⟩ := hch t hg
    rw [(hall l hl).1, (hall l hl).2] at ha
    cases ha <;> contradiction

/-- **COMPLETENESS OF EVICTION for tasks that wait only on shell requests** — the last clause of the property, proved over
    whole runs for SIMPLE task programs (`simpleIs`: emit, notify, request, stream, spawn, join, self-wake in any nesting; no
    select, no request future handed to another task, no join handles, no abort handles, no hosted commands) under the
    direct host: after EVERY history of resolutions, drops and polls that leaves every request channel closed
    (resolved-and-consumed or dropped), NO TASK REMAINS — so the command is done as soon as its outputs have
    been taken (`done_iff`). This is `command_with_select_done_when_all_requests_gone` below for programs without `select`
    (`simpleSIs_of_simpleIs`): every stored task is charged to a channel whose sender is alive (`runDirect_charged`), and
    no sender is. A simple task suspended only at closed requests is moreover never held by a stale registration: it is on
    the ready queue (`dead_simple_task_is_evicted_or_queued`). No hypothesis is left but the shape of
    the program and the state of the channels. What the fragment excludes is exactly what `completeness_fails_with_handoff`
    needs: a registration that is made and then abandoned. -/
theorem simple_command_done_when_all_requests_gone (is : List Instr) (hf : hostFreeIs is = true) (hs : simpleIs is = true)
    (canon : Bool) (acts : List M.Hosts.Action) (os : List M.Hosts.Obs) (d : M.Hosts.Direct)
    (h : M.Hosts.runDirect (.task is) canon acts = some (os, d))
    (hall : ∀ l, l < d.w.leaves.length → (d.w.leaf l).senderAlive = false ∧ (d.w.leaf l).legacy = false) (tid : Nat) :
    (d.w.cmd d.cid).tasks.get? tid = none :=
  no_task_of_charged hall (M.Hosts.runDirect_charged is hf (simpleSIs_of_simpleIs is hs) canon acts os d h tid)

/-- the poll that leaves a simple task suspended only at closed requests evicts it or queues it,
    for every fuel, world and nesting: if `run_task` keeps such a task as `Suspended`, its id is on the ready queue -/
theorem dead_simple_task_is_evicted_or_queued (pn : Waker → Nat → World → Option (NextRes × World)) (f : Nat) (c tid : Nat)
    (w w' : World) (h : runTaskF (pollBlock pn f) c tid w = some (.suspended, w')) (hw : HFc c w) (hs : SPc c w) (sok : SOk w)
    (hal : (w.cmd c).alive = true) (hin : c < w.cmds.length) (t : Task) (hg : (w'.cmd c).tasks.get? tid = some t)
    (hd : deadOnlyB t.fut = true) : tid ∈ (w'.cmd c).ready :=
  runTaskF_dead_queued h hw hs sok hal hin t hg hd

/-- non-vacuity: a simple program (two joined requests, a stream with a follow-up request in a spawned task) and a history
    that closes every channel — and the handoff program is NOT simple (kernel evaluation) -/
def simpleProg : List Instr :=
  [.spawn 0 [.stream 1 4 (.lit 0) 0 [.req 2 5 (.var 1)]], .join [.req 1 1 (.lit 1)] [.req 3 3 (.lit 3), .emit 10 (.var 3)]]
example : hostFreeIs simpleProg = true ∧ simpleIs simpleProg = true ∧ simpleIs handoffProg = false := by decide
example : ((M.Hosts.runDirect (.task simpleProg) false [.drop 1, .res 2 7, .res 0 101, .drop 3, .poll, .drop 2]).map fun r =>
    (r.2.w.leaves.all (fun lf => !lf.senderAlive && !lf.legacy), r.2.w.leaves.length, (r.2.w.cmd r.2.cid).ready,
     (r.2.w.cmd r.2.cid).tasks.len)) = some (true, 4, [], 0) := by decide +kernel
example : ((M.Hosts.runDirect (.task simpleProg) false [.drop 1, .res 2 7, .res 0 101, .drop 3, .poll, .drop 2]).map fun r =>
    (r.2.w.isDoneNow r.2.cid, r.1.map (·.done))) =
    some (true, [some false, some false, some false, some false, some true, some true, some true]) := by decide +kernel

/-- **COMPLETENESS OF EVICTION WITH SELECT** — the same for `simpleS` task programs: simple programs plus `select` (any
    nesting of emit, notify, request, stream, spawn, join, SELECT, self-wake). A completed select drops its losing branch and
    leaves that branch's registrations behind, so here a task CAN stay `Suspended` although it is suspended only at closed
    requests — held by a stale registration of its own waker at a channel whose sender is still alive (second example
    below). The invariant `NDS` says exactly that: such a task is on the ready queue OR some channel still holds a waker of
    it; `WOwn` (a channel a stored task references holds only that task's wakers) keeps other tasks' polls from overwriting
    it, and whoever takes it — the shell resolving or dropping that request — wakes it (`take_wake_stale`). With every
    channel closed no channel holds any waker (`LQ`), so the task was queued, polled and evicted: NO TASK REMAINS.
    Lemmas/SimpleS, NoAbort, NoReg, Complete, CompleteS (the frames SSGood, NASGood, MCGood as instances of the poll induction for the simpleS blocks, `pollBlock_inv_class`, and
    the frame `NW` as an instance `nw_ops` of `pollBlock_inv`; the bundle `CS` —
    freshness, well-formedness, channel ownership, simpleS, NAb, WOwn, NDS — through run_task, finishing, spawning, the
    settle loops, the shell and the direct host). -/
theorem command_with_select_done_when_all_requests_gone (is : List Instr) (hf : hostFreeIs is = true)
    (hs : simpleSIs is = true) (canon : Bool) (acts : List M.Hosts.Action) (os : List M.Hosts.Obs) (d : M.Hosts.Direct)
    (h : M.Hosts.runDirect (.task is) canon acts = some (os, d))
    (hall : ∀ l, l < d.w.leaves.length → (d.w.leaf l).senderAlive = false ∧ (d.w.leaf l).legacy = false) (tid : Nat) :
    (d.w.cmd d.cid).tasks.get? tid = none :=
  no_task_of_charged hall (M.Hosts.runDirect_charged is hf hs canon acts os d h tid)

/-- a task that `run_task` keeps although it is suspended only at closed requests is queued or held by a channel — the
    step `NDS` rests on, for every fuel and world -/
theorem dead_task_is_evicted_queued_or_held (pn : Waker → Nat → World → Option (NextRes × World)) (f : Nat) (c tid : Nat)
    (w w' : World) (h : runTaskF (pollBlock pn f) c tid w = some (.suspended, w')) (hw : HFc c w)
    (hs : ∀ t ∈ (w.cmd c).tasks.values, simpleSB t.fut = true) (sok : SOk w) (hal : (w.cmd c).alive = true)
    (hin : c < w.cmds.length) (t : Task) (hg : (w'.cmd c).tasks.get? tid = some t) (hd : deadOnlyB t.fut = true) :
    tid ∈ (w'.cmd c).ready ∨ StaleW c tid w' :=
  (runTaskF_dead_stale h hw hs sok hal hin).imp id fun ⟨l, hl⟩ => ⟨l, _, hl⟩

/-- non-vacuity, and a state no simple program reaches: join(select(A, B), C); the shell drops C and answers
    B. The select completes, A's registration stays behind at its live channel: the task is stored, suspended only at closed
    requests, NOT queued, not done — and held by channel 0. Dropping A then wakes it and it is evicted (kernel evaluation). -/
def selProg : List Instr := [.join [.select [.req 1 1 (.lit 1)] [.req 2 2 (.lit 2)]] [.req 3 3 (.lit 3)]]
example : hostFreeIs selProg = true ∧ simpleSIs selProg = true ∧ simpleIs selProg = false := by decide
example : ((M.Hosts.runDirect (.task selProg) false [.drop 2, .res 1 7]).map fun r =>
    (r.2.w.leaves.map (fun lf => (lf.senderAlive, lf.waker.isSome)), (r.2.w.cmd r.2.cid).ready,
     (r.2.w.cmd r.2.cid).tasks.values.map (fun t => deadOnlyB t.fut), r.2.w.isDoneNow r.2.cid)) =
    some ([(true, true), (false, false), (false, false)], [], [true], false) := by decide +kernel
example : ((M.Hosts.runDirect (.task selProg) false [.drop 2, .res 1 7, .drop 0]).map fun r =>
    (r.2.w.leaves.all (fun lf => !lf.senderAlive && !lf.legacy), (r.2.w.cmd r.2.cid).tasks.len, r.2.w.isDoneNow r.2.cid)) =
    some (true, 0, true) := by decide +kernel

-- no `handoff` anywhere in the program
mutual
def handoffFreeI : Instr → Bool
  | .handoff _ _ _ _ => false
  | .stream _ _ _ _ body => handoffFreeIs body
  | .spawn _ body => handoffFreeIs body
  | .join a b => handoffFreeIs a && handoffFreeIs b
  | .select a b => handoffFreeIs a && handoffFreeIs b
  | _ => true
def handoffFreeIs : List Instr → Bool
  | [] => true
  | i :: is => handoffFreeI i && handoffFreeIs is
end

/-- STATED, NOT PROVED beyond the simpleS fragment (`simple_command_done_when_all_requests_gone` and
    `command_with_select_done_when_all_requests_gone` above prove it for programs without join handles): completeness of eviction where no request future changes hands — for every host-free task program
    without `handoff` under the direct host, after every history that leaves every request channel closed and empty, the
    command is done. No counterexample in ≥ 10^6 generated histories of the `complete` stream (every rejection of its oracle
    clause is a `handoff` program); the proof needs, on top of `GInv` and the invariant "a registered waker means a live
    sender", that a stored unqueued task holds a registration of its last waker (the clone count `run_task` read stays ≥ 1
    until the task is woken — exactly what `handoff` breaks). Known to be false outside the DSL for waker-retaining
    combinators (known finding retaining-combinator-never-evicted). -/
def evict_complete_handoff_free_goal : Prop :=
  ∀ (is : List Instr), hostFreeIs is = true → handoffFreeIs is = true →
    ∀ (canon : Bool) (acts : List M.Hosts.Action) (os : List M.Hosts.Obs) (d : M.Hosts.Direct),
      M.Hosts.runDirect (.task is) canon acts = some (os, d) → allGone d.w = true → d.w.isDoneNow d.cid = true

end Props.C07
