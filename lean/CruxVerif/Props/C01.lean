/-
C01 — a core call runs to quiescence and hands over every effect exactly once.

Stated on M.Rt (the model of core/mod.rs, capability/executor.rs, command/executor.rs, command/stream.rs), for
every app program, every world and every fuel: if the call returns (`= some …`, i.e. partial correctness),
then the postcondition holds.  The loops are proved against an ARBITRARY lower layer (`rt`, `settle`): whatever
polling a task does, the loop cannot return with work left in its queues.
-/
import CruxVerif.Lemmas.CompleteS
import CruxVerif.Lemmas.RtCore
import CruxVerif.Lemmas.RtTask
import CruxVerif.Lemmas.QRun
namespace Props.C01
open M.Rt

/-- when `Core::process` returns: the request channel has been handed over completely, no emitted event is left
    unapplied, and the executor has neither runnable nor unspawned tasks -/
theorem C01_core_quiescent (k k' : Core) (effs : List Eff) (h : process k = some (effs, k')) :
    k'.w.coreEffects = [] ∧ k'.w.coreEvents = [] ∧ k'.w.execSpawn = [] ∧ k'.w.execReady = [] :=
  process_post k k' effs h

/-- the same for the two public entry points -/
theorem C01_process_event_quiescent (ev : Ev) (k k' : Core) (effs : List Eff) (h : processEvent ev k = some (effs, k')) :
    k'.w.coreEffects = [] ∧ k'.w.coreEvents = [] ∧ k'.w.execSpawn = [] ∧ k'.w.execReady = [] :=
  process_post _ k' effs h

/-- the returned effects are exactly the content of the request channel at the end of the event loop, and that
    channel is emptied by the call: every effect that reached the channel is handed over once, by this call -/
theorem C01_handed_over_once (k k' : Core) (effs : List Eff) (h : process k = some (effs, k')) :
    ∃ k2 : Core, effs = k2.w.coreEffects ∧ k' = { k2 with w := { k2.w with coreEffects := [] } } :=
  process_returns_channel k k' effs h

/-- `QueuingExecutor::run_all` returns only with both queues empty -/
theorem C01_run_all_drains (f : Nat) (k k' : Core) (h : runAll f k = some k') :
    k'.w.execSpawn = [] ∧ k'.w.execReady = [] := runAll_post f k k' h

/-- `Command::run_until_settled` (any nesting level, any task behaviour): a command that is not aborted is left with
    an empty ready queue and an empty spawn queue -/
theorem C01_command_settled (rt : Nat → Nat → World → Option (TaskState × World)) (cid : Nat) (w w' : World)
    (hna : w.aborted cid = false) (h : runUntilSettledF rt cid w = some w') :
    (w'.cmd cid).ready = [] ∧ (w'.cmd cid).spawnQ = [] := runUntilSettledF_settled rt cid w w' hna h

/-- `poll_next` never reports `Pending` or end-of-stream while an output is still queued in the command: a host that
    forwards until `Pending`/`None` has taken everything -/
theorem C01_nothing_left_in_hosted_command (settle : Nat → World → Option World) (wk : Waker) (cid : Nat) (w w' : World)
    (h : pollNextF settle wk cid w = some (.finished, w')) :
    (w'.cmd cid).effects = [] ∧ (w'.cmd cid).events = [] ∧ (w'.cmd cid).tasks.isEmpty = true :=
  (isDoneNow_iff w' cid).mp (pollNextF_finished settle wk cid w w' h)

/-- **NO LOST WAKE-UP, NOTHING LEFT BEHIND — flat apps** (`…_flat`: apps whose `update` returns commands WITHOUT combinators —
    any task program with `spawn`, `join!`, `select!`, streams, hand-offs, join handles, abort handles, self-aborts, builder
    chains — plus host-free legacy capability tasks; the full statement for nested commands is `C01_nested_quiescent_goal`).
    After EVERY history of events, resolutions, drops, aborts and probes, EVERY further call into the Core returns only
    when the executor's queues are empty AND no live, un-aborted command has a task on its ready queue, a spawned task
    waiting to start, or an effect or event still queued.
    Scheduling invariant `QI` (Lemmas/QDefs, QSteps, QExec, QCore, QRun ≈ 1150 lines): every live command is
    either ARMED (it holds the root waker of the executor task hosting it) or SCHEDULED (that executor task is on the ready
    queue, or the command is still on the spawn queue), and a command with work is scheduled. Every wake — a resolved or
    dropped request, a finished task waking a join handle, a self-wake, an abort — pushes the task id and TAKES the command's
    waker, which queues the executor task (`wake_qs`); the step relation `QS` is carried through one poll as an instance
    `qs_ops` of the poll induction `pollBlock_inv`, then through run_task / run_until_settled / poll_next, the CommandSpawner loop, run_all, `update`
    + spawn, the event loop and the shell's operations. -/
theorem core_call_quiescent_flat (prog : M.Hosts.Prog) (hp : progFlat prog) (canon : Bool) (acts : List M.Hosts.Action)
    (os : List M.Hosts.Obs) (h : M.Hosts.CoreHost) (hr : M.Hosts.runCore prog canon acts = some (os, h))
    (a : M.Hosts.Action) (o : M.Hosts.Obs) (h' : M.Hosts.CoreHost) (hs : h.step a = some (o, h')) :
    h'.k.w.execSpawn = [] ∧ h'.k.w.execReady = [] ∧
    ∀ c, c < h'.k.w.cmds.length → (h'.k.w.cmd c).alive = true → h'.k.w.aborted c = false →
      (h'.k.w.cmd c).ready = [] ∧ (h'.k.w.cmd c).spawnQ = [] ∧ (h'.k.w.cmd c).effects = [] ∧ (h'.k.w.cmd c).events = [] := by
  have q := M.Hosts.CoreHost.step_q h a o h' hs (M.Hosts.runCore_quiescent prog hp canon acts os h hr)
  exact ⟨q.2.1, q.2.2, fun c hc hal hna => q.1.quiescent q.2.1 q.2.2 c hc hal hna⟩

/-- the same for `Core::process` / `Core::process_event` themselves, from any state satisfying the invariant -/
theorem process_quiescent_flat (ev : Ev) (k k' : Core) (effs : List Eff) (hk : QI k none)
    (h : processEvent ev k = some (effs, k')) :
    QI k' none ∧ ∀ c, c < k'.w.cmds.length → (k'.w.cmd c).alive = true → k'.w.aborted c = false →
      (k'.w.cmd c).ready = [] ∧ (k'.w.cmd c).spawnQ = [] ∧ (k'.w.cmd c).effects = [] ∧ (k'.w.cmd c).events = [] := by
  have q := processEvent_q ev k effs k' h hk
  exact ⟨q.1, fun c hc hal hna => q.1.quiescent q.2.1 q.2.2 c hc hal hna⟩

/-- the mechanism: a wake of ANY waker, in ANY world, at ANY fuel — the task id is pushed onto its command's ready queue
    only together with TAKING that command's waker, and a taken root waker has queued its executor task -/
theorem wake_takes_and_queues (me : Option Nat) (w : World) (wk : Waker) :
    (∀ c, some c ≠ me → ((w.wake wk).cmd c).ready = (w.cmd c).ready ∨ ((w.wake wk).cmd c).waker = none) ∧
    (∀ c, ((w.wake wk).cmd c).waker = (w.cmd c).waker ∨
      (((w.wake wk).cmd c).waker = none ∧ ∀ etid, (w.cmd c).waker = some (.root etid) → etid ∈ (w.wake wk).execReady)) :=
  let q := World_wake_qs me w wk
  ⟨q.work, q.waker⟩

/-- non-vacuity: a flat app (a task program with a spawned task and a join handle, an abortable stream, a legacy task) -/
example : progFlat [(1, .task [.spawn 1 [.req 1 1 (.lit 0)], .await 1, .emit 2 (.lit 1)], []),
    (2, .abortable 0 (.stream 3 (.lit 0) 4), [[.req 1 5 (.lit 0)]])] := by
  intro p hp
  simp only [List.mem_cons, List.not_mem_nil, or_false] at hp
  rcases hp with rfl | rfl
  · exact ⟨rfl, by intro is his; cases his⟩
  · exact ⟨rfl, by intro is his; simp only [List.mem_singleton] at his; subst his; rfl⟩

/-- STATED, NOT PROVED (kept visible, counted as `stated_not_proved` in the evidence): the same for apps whose commands are
    nested by `then / and / all / map_*`. There a command's host is a task of another command, the chain of wakers has
    arbitrary depth (`wake_reaches_root`, C05), and a command that has not been started yet (the second operand of `then`)
    legitimately has its first task ready — so the statement is about commands whose host has polled them. Covered by the
    correspondence check (`q…` counters and the no-op probe after every call). -/
def C01_nested_quiescent_goal : Prop :=
  ∀ (prog : M.Hosts.Prog) (canon : Bool) (acts : List M.Hosts.Action) (os : List M.Hosts.Obs) (h : M.Hosts.CoreHost),
    M.Hosts.runCore prog canon acts = some (os, h) → acts ≠ [] →
    ∀ cid, (h.k.w.cmd cid).alive = true → h.k.w.aborted cid = false → (h.k.w.cmd cid).waker ≠ none →
      (h.k.w.cmd cid).ready = [] ∧ (h.k.w.cmd cid).spawnQ = [] ∧ (h.k.w.cmd cid).effects = [] ∧ (h.k.w.cmd cid).events = []

/-! non-vacuity: a call that returns, on a concrete app (evaluated by the kernel) -/
example : ∃ effs k', processEvent ⟨1, 0⟩ { prog := [(1, .notify 7 (.lit 3), [])] } = some (effs, k') ∧ effs.length = 1 :=
  ⟨_, _, rfl, rfl⟩

/-- **QUIESCENT AND NOTHING LOST, under the direct host, over whole runs** (simpleS task programs: emit, notify, request,
    stream, spawn, join, select, self-wake in any nesting). After EVERY history of resolutions, drops and polls, when the
    observation (`effects()` / `events()` / `is_done()`) has returned: nothing is left to run — the ready queue is empty — and
    no wake-up can be lost — every task still stored has its OWN waker registered in a channel whose sender the shell still
    holds, so the resolve or drop of that very request wakes that very task (`M.Rt.take_wake_stale`). Invariants `GInv`, `LQ`
    and the bundle `CS` of C07 (Lemmas/CompleteS.lean). -/
theorem direct_observation_quiescent_and_armed (is : List Instr) (hf : hostFreeIs is = true) (hs : simpleSIs is = true)
    (canon : Bool) (acts : List M.Hosts.Action) (os : List M.Hosts.Obs) (d : M.Hosts.Direct)
    (h : M.Hosts.runDirect (.task is) canon acts = some (os, d)) :
    (d.w.cmd d.cid).ready = [] ∧
    ∀ tid t, (d.w.cmd d.cid).tasks.get? tid = some t →
      ∃ l s, l < d.w.leaves.length ∧ (d.w.leaf l).waker = some (.task d.cid tid s) ∧
        ((d.w.leaf l).senderAlive = true ∨ (d.w.leaf l).legacy = true) :=
  ⟨(M.Hosts.runDirect_cs is hf hs canon acts os d h).2, M.Hosts.runDirect_charged is hf hs canon acts os d h⟩

/-- … and taking that waker wakes that task: after the shell drops (or resolves) the request of channel `l0`, a task that
    was held by a channel is still held by one or is on the ready queue -/
theorem taking_a_waker_wakes_its_task (w : World) (l0 c tid : Nat) (hal : (w.cmd c).alive = true) (hin : c < w.cmds.length)
    (h : StaleW c tid w) : StaleW c tid (w.dropSender l0) ∨ tid ∈ ((w.dropSender l0).cmd c).ready :=
  dropSender_stale w l0 c tid hal hin (Or.inl h)

end Props.C01
