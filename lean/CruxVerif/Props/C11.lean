/-
C11 — the core is a deterministic function of its input history.

The runtime models (`M.Rt`, `M.Hosts`, engine `rt`) are functions of the history and agree exactly with the real code,
so the content of C11 lies in the places where the code consults something *outside* its inputs.  Each is an explicit
parameter of `M.Det`:

 (a) the iteration order of the header hash map in `into_protocol_request`.  Since /repo cda2127 the pairs are sorted by
     name (stable), and `headers_order_independent` proves the serialized request independent of the order — for every
     header multimap and every permutation (unbounded).  The pinned tree emitted the pairs in iteration order;
     `headers_order_dependent_unsorted` keeps that difference visible (two-header witness).
 (b) the same order in the hand-written `PartialEq for Response`, which zips two iterations:
     `response_eq_extensional` is **false** in both directions (`response_eq_accepts_different`: no headers == one header;
     `response_eq_rejects_equal`: two identically built two-header responses under different orders), with the true
     restrictions `response_eq_partial_no_headers` / `response_eq_partial_one_header`.  Known finding, not repairable
     (a baseline test relies on the first direction), keys `response-eq-accepts-different` / `response-eq-rejects-equal`.
 (c) the start value of the process-wide timer counter: `timer_ids_consecutive`, `timers_counter_renaming`
     (`∃ ρ` injective on the ids in use with `run k' = rename ρ (run k)`), `rank_rename_independent`.
-/
import CruxVerif.Spec.Det
import CruxVerif.Lemmas.Det
namespace Props.C11
open M.Http M.Det S.Det Lemmas.Det

/-! ### (a) header order -/

/-- **The serialized HTTP effect does not depend on the iteration order of the header map** (code as it is now):
    for every method, URL, body, every header map `h` (distinct names, any number of values per name) and every order
    `h'` in which the hash map may yield its entries. -/
theorem headers_order_independent (method url body : Bytes) (h h' : Headers) (hp : h'.Perm h)
    (hn : (h'.map (·.1)).Nodup) :
    protocolBytes true method url h' body = protocolBytes true method url h body := by
  simp only [protocolBytes, if_true, emitHeaders_perm h' h hp hn]

/-- the same statement for the pinned tree (pairs emitted in iteration order) -/
def headers_order_independent_unsorted : Prop :=
  ∀ (method url body : Bytes) (h h' : Headers), h'.Perm h → (h'.map (·.1)).Nodup →
    protocolBytes false method url h' body = protocolBytes false method url h body

/-- … is false: `a: 1`, `b: 2` in the two possible orders give different bytes (repaired by /repo cda2127) -/
theorem headers_order_dependent_unsorted : ¬ headers_order_independent_unsorted := by
  intro h
  have := h [71] [117] [] [([97], [[49]]), ([98], [[50]])] [([98], [[50]]), ([97], [[49]])]
    (List.Perm.swap _ _ _) (by decide)
  revert this
  decide

/-- every request the model builds is one byte string, whatever the order: the oracle accepts the prediction -/
theorem hdr_sound (c : ReqCase) : okHdr c (hdrObs c) = true := by
  unfold okHdr hdrObs
  by_cases hd : hdrDomain c.calls = true
  · simp only [hd, Bool.not_true, Bool.false_eq_true, if_false]
    have hin : S.Http.inDomain c.calls = true := hd
    obtain ⟨r, hr⟩ := Option.isSome_iff_exists.1 ((Lemmas.Http.foldCalls_isSome c.calls
      { method := upper c.method, url := c.url, headers := [], body := [], len := some 0 }).trans hin)
    simp [buildRequest, hr]
  · simp [hd]

/-! ### (b) `Response == Response` -/

/-- "`==` holds exactly when the contents are equal", with the two iteration orders explicit -/
def response_eq_extensional : Prop :=
  ∀ (a b : Resp) (ha hb : Headers), ha.Perm a.headers → hb.Perm b.headers →
    (a.headers.map (·.1)).Nodup → (b.headers.map (·.1)).Nodup →
    (respEq { a with headers := ha } { b with headers := hb } = true ↔ sameContents a b = true)

/-- direction 1 fails: a response without headers `==` one with a header (zip stops at the shorter list) -/
theorem response_eq_accepts_different :
    ∃ a b : Resp, respEq a b = true ∧ sameContents a b = false :=
  ⟨⟨none, 200, [], some [97]⟩, ⟨none, 200, [([120], [[49]])], some [97]⟩, by decide, by decide⟩

/-- direction 2 fails: two responses with the same two headers compare unequal when their maps iterate differently -/
theorem response_eq_rejects_equal :
    ∃ (a : Resp) (ha hb : Headers), ha.Perm a.headers ∧ hb.Perm a.headers ∧ (a.headers.map (·.1)).Nodup ∧
      sameContents a a = true ∧ respEq { a with headers := ha } { a with headers := hb } = false :=
  ⟨⟨none, 200, [([120], [[49]]), ([121], [[50]])], none⟩, [([120], [[49]]), ([121], [[50]])],
    [([121], [[50]]), ([120], [[49]])], List.Perm.refl _, List.Perm.swap _ _ _, by decide, by decide, by decide⟩

theorem response_eq_extensional_false : ¬ response_eq_extensional := by
  intro h
  have := (h ⟨none, 200, [], some [97]⟩ ⟨none, 200, [([120], [[49]])], some [97]⟩ [] [([120], [[49]])]
    (List.Perm.refl _) (List.Perm.refl _) (by decide) (by decide)).mp (by decide)
  revert this
  decide

/-- header-free responses: `==` is equality -/
theorem response_eq_partial_no_headers (a b : Resp) (ha : a.headers = []) (hb : b.headers = []) :
    respEq a b = true ↔ a = b := by
  obtain ⟨av, as, ah, ab⟩ := a
  obtain ⟨bv, bs, bh, bb⟩ := b
  simp only at ha hb
  subst ha hb
  simp [respEq, headersEq, and_assoc]

/-- one header name on each side with equally many values: `==` is equality -/
theorem response_eq_partial_one_header (a b : Resp) (n m : Bytes) (vs ws : List Bytes)
    (ha : a.headers = [(n, vs)]) (hb : b.headers = [(m, ws)]) (hl : vs.length = ws.length) :
    respEq a b = true ↔ a = b := by
  obtain ⟨av, as, ah, ab⟩ := a
  obtain ⟨bv, bs, bh, bb⟩ := b
  simp only at ha hb
  subst ha hb
  have hv := valuesEq_iff_of_length vs ws hl
  simp only [respEq, headersEq, List.zip_cons_cons, List.zip_nil_right, List.all_cons, List.all_nil, Bool.and_true,
    Bool.and_eq_true, beq_iff_eq, hv, Resp.mk.injEq, List.cons.injEq, Prod.mk.injEq, and_true]
  constructor
  · rintro ⟨⟨⟨h1, h2⟩, h3, h4⟩, h5⟩; exact ⟨h1, h2, ⟨h3, h4⟩, h5⟩
  · rintro ⟨h1, h2, ⟨h3, h4⟩, h5⟩; exact ⟨⟨⟨h1, h2⟩, h3, h4⟩, h5⟩

/-- in the header-free region the model's prediction satisfies the specification -/
theorem eq_sound_partial_no_headers (a b : Resp) (ha : a.headers = []) (hb : b.headers = []) :
    okEq (sameContents a b) (eqOutcomes a b).1 (eqOutcomes a b).2 = true := by
  obtain ⟨av, as, ah, ab⟩ := a
  obtain ⟨bv, bs, bh, bb⟩ := b
  simp only at ha hb
  subst ha hb
  simp only [eqOutcomes, perms, List.flatMap_cons, List.flatMap_nil, List.map_cons, List.map_nil, List.append_nil,
    List.any_cons, List.any_nil, Bool.or_false, id, respEq, headersEq, sameContents, List.zip_nil_right, List.all_nil,
    Bool.and_true, List.length_nil, beq_self_eq_true, okEq]
  cases h1 : (av == bv) <;> cases h2 : (as == bs) <;> cases h3 : (ab == bb) <;> simp

/-- values with derived `PartialEq` are modelled by their canonical descriptions: prediction satisfies the specification -/
theorem derived_eq_sound (a b : String) : okEq (a == b) (a == b) (a != b) = true := by
  unfold okEq
  cases h : (a == b) <;> simp [bne, h]

/-! ### (c) timer ids -/

/-- `n` timers started when the counter stands at `k` get the ids `k, k+1, …, k+n-1`, in order of creation -/
theorem timer_ids_consecutive (ops : List TOp) : ∀ k : Nat,
    (runTimers k ops).filterMap TReq.id? = List.range' k (ops.filter isTimer).length := by
  induction ops with
  | nil => intro k; rfl
  | cons op rest ih =>
    intro k
    cases op <;> simp only [runTimers, List.filterMap_cons, TReq.id?, List.filter_cons, isTimer, if_true,
      Bool.false_eq_true, if_false, List.length_cons, List.range'_succ, ih]

/-- **The observation depends on the counter only through a renaming of ids**: for any two start values there is a
    renaming `ρ`, injective on the ids in use (`≥ k`), that maps one run onto the other. -/
theorem timers_counter_renaming (ops : List TOp) (k k' : Nat) :
    ∃ ρ : Nat → Nat, (∀ i j, k ≤ i → k ≤ j → ρ i = ρ j → i = j) ∧
      (∀ r ∈ runTimers k ops, ∀ i, r.id? = some i → k ≤ i) ∧
      runTimers k' ops = (runTimers k ops).map (TReq.rename ρ) := by
  refine ⟨fun i => i - k + k', ?_, run_ids_ge ops k, ?_⟩
  · intro i j hi hj h; simp only at h; omega
  · have h0 := run_shift ops 0 k
    have h1 := run_shift ops 0 k'
    simp only [Nat.zero_add] at h0 h1
    rw [h1, h0, List.map_map]
    apply List.map_congr_left
    intro r _
    simp only [Function.comp, rename_rename]
    cases r <;> simp [TReq.rename]

/-- renaming by rank of first appearance removes the dependence on the counter altogether -/
theorem rank_rename_independent (ops : List TOp) (k k' : Nat) :
    rankRename (runTimers k ops) = rankRename (runTimers k' ops) := by
  rw [rankRename_run, rankRename_run]

/-- the prediction for a timer history is accepted -/
theorem tid_sound (ops : List TOp) : okTid (tidObs ops) = true := rfl

/-- … and is the same whatever the counter was -/
theorem tid_counter_free (ops : List TOp) (k : Nat) :
    (rankRename (runTimers k ops)).flatMap encodeTReq = (rankRename (runTimers 1 ops)).flatMap encodeTReq := by
  rw [rank_rename_independent ops k 1]

/-! non-vacuity -/
example : runTimers 7 [.after 5, .now, .at_ 1 2] = [.notifyAfter 7 5, .now, .notifyAt 8 1 2] := by decide
example : rankRename [.notifyAfter 7 5, .now, .notifyAt 8 1 2, .clear 7] =
    [.notifyAfter 0 5, .now, .notifyAt 1 1 2, .clear 0] := by decide
example : emitHeaders [([98], [[50], [51]]), ([97], [[49]])] = [([97], [49]), ([98], [50]), ([98], [51])] := by decide
example : eqOutcomes ⟨none, 200, [([120], [[49]]), ([121], [[50]])], none⟩
    ⟨none, 200, [([120], [[49]]), ([121], [[50]])], none⟩ = (true, true) := by decide
example : okEq true true true = false ∧ okEq false true false = false ∧ okEq true true false = true := by decide
example : okHdr ⟨[103], [117], []⟩ (.differ 2) = false := by decide
example : okTid (.differ 2) = false := by decide

end Props.C11
