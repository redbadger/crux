/-
C06 — cancellation is final, contained, and safe against late responses.
-/
import CruxVerif.Lemmas.RtTask
import CruxVerif.Lemmas.Resolve
import CruxVerif.Lemmas.HostLtBuild
import CruxVerif.Lemmas.GCore
import CruxVerif.Lemmas.QRun
import CruxVerif.Lemmas.GParkCore
namespace Props.C06
open M.Rt

/-- a task aborted through its join handle is never polled again: `run_task` reports it completed, nothing changes -/
theorem task_abort_final (poll : Waker → Sink → Block → World → Option (PollRes × World)) (cid tid : Nat) (w : World)
    (t : Task) (hg : (w.cmd cid).tasks.get? tid = some t) (ha : (w.getMeta t.serial).aborted = true) :
    runTaskF poll cid tid w = some (.completed, w) := runTaskF_aborted poll cid tid w t hg ha

/-- an aborted command drops all its tasks the next time it is looked at, without polling any of them … -/
theorem abort_drops_all_tasks (rt : Nat → Nat → World → Option (TaskState × World)) (cid : Nat) (w w' : World)
    (ha : w.aborted cid = true) (h : runUntilSettledF rt cid w = some w') : (w'.cmd cid).tasks = {} :=
  runUntilSettledF_aborted rt cid w w' ha h

/-- … and then reports done as soon as its already-emitted outputs have been taken -/
theorem abort_done (rt : Nat → Nat → World → Option (TaskState × World)) (cid : Nat) (w w' : World)
    (ha : w.aborted cid = true) (h : runUntilSettledF rt cid w = some w')
    (he : (w'.cmd cid).effects = []) (hv : (w'.cmd cid).events = []) : w'.isDoneNow cid = true := by
  rw [isDoneNow_iff]
  refine ⟨he, hv, ?_⟩
  rw [runUntilSettledF_aborted rt cid w w' ha h]
  rfl

/-- the abort path never calls the task layer: the result does not depend on it -/
theorem abort_polls_nothing (rt rt' : Nat → Nat → World → Option (TaskState × World)) (cid : Nat) (w : World)
    (ha : w.aborted cid = true) : runUntilSettledF rt cid w = runUntilSettledF rt' cid w := by
  simp [runUntilSettledF, ha]

/-- resolving a request whose consumer is gone: a stream request is rejected and nothing changes; a one-shot request
    reports success, delivers nothing (the consumer's channel is not written) — and in neither case is there a panic
    outcome in the model -/
theorem late_resolve_inert (l : Nat) (v : Val) (w : World) (h : (w.leaf l).receiverAlive = false) :
    resolveReq (.many l) v w = (.many l, .finished, w) ∧
    (resolveReq (.once l) v w).2.1 = .ok ∧
    ((resolveReq (.once l) v w).2.2.leaf l).queue = (w.leaf l).queue := by
  refine ⟨(resolve_many_iff l v w).2 h, (resolve_once_consumes l v w).2, ?_⟩
  rw [resolveReq_once, h]
  exact World.dropSender_leaf_queue w l

/-- a request dropped unresolved cannot be resolved later -/
theorem dropped_request_unresolvable (r : Resolve) (v : Val) (w : World) :
    (resolveReq (dropReq r w).1 v (dropReq r w).2).2.1 = .gone := by
  cases r <;> simp [dropReq, resolveReq]

/-- CONTAINMENT by the hosting order (Lemmas/HostLt*.lean, ≈600 lines; `instantiate` gives every hosted command an index
    below its host's). In every world the direct host of ANY command (host-free task bodies, any nesting of then / and / all /
    map_*) reaches after ANY history, every stored task hosts only commands below its own command (`HL`). -/
theorem hosting_ordered_over_runs (c : Cmd) (hc : cmdHF c = true) (canon : Bool) (acts : List M.Hosts.Action)
    (os : List M.Hosts.Obs) (d : M.Hosts.Direct) (h : M.Hosts.runDirect c canon acts = some (os, d)) : HL d.w :=
  M.Hosts.runDirect_hl c hc canon acts os d h

/-- The same under the CORE host (Lemmas/XFrame, CoreFrame, GCore): for every app whose commands have host-free
    task bodies (any nesting of combinators) and whose legacy capability tasks are host-free, in every world a Core reaches
    after ANY history of events, resolutions, drops, aborts and probes, every stored task hosts only commands below its
    own command — so `run_is_contained` / `drop_is_contained` / `poll_keeps_own_slab` apply to every state of a Core. -/
theorem hosting_ordered_under_core (prog : M.Hosts.Prog) (hp : progHF prog) (canon : Bool) (acts : List M.Hosts.Action)
    (os : List M.Hosts.Obs) (h : M.Hosts.CoreHost) (hr : M.Hosts.runCore prog canon acts = some (os, h)) : HL h.k.w :=
  (M.Hosts.runCore_c prog hp canon acts os h hr).hl

/-- nothing a command does — polls at any nesting depth, run_task, run_until_settled, poll_next, aborts, drops — writes the
    Core's own queues (executor spawn queue, effect channel, event channel): cancellation inside a command cannot disturb
    what the Core has queued -/
theorem command_never_writes_core_queues (wk : Waker) (c : Nat) (w : World) (r : NextRes) (w' : World)
    (h : pollNext wk c w = some (r, w')) :
    w'.execSpawn = w.execSpawn ∧ w'.coreEffects = w.coreEffects ∧ w'.coreEvents = w.coreEvents := by
  have := pollNext_x wk c w r w' h
  simp only [X, Prod.mk.injEq] at this
  exact this

/-- … and in such a world, RUNNING command `c` — settling it, polling its tasks, whatever they host, run, cancel, abort or
    drop recursively — leaves the task slab and the spawn queue of EVERY command with a larger index exactly as they were:
    in particular those of the command hosting `c` and of everything above it. Cancellation inside `c` is contained. -/
theorem run_is_contained (c : Nat) (w w' : World) (h : runUntilSettled c w = some w') (hw : HL w) :
    HL w' ∧ (∀ q, c < q → (w'.cmd q).tasks = (w.cmd q).tasks) ∧
      (∀ q t, c < q → t ∈ (w'.cmd q).spawnQ → t ∈ (w.cmd q).spawnQ) :=
  let r := runUntilSettled_hl c w w' h hw
  ⟨r.1, r.2.tasks, r.2.spawn⟩

/-- dropping command `c` (when its host is cancelled, or when it has finished) reaches only commands below `c` -/
theorem drop_is_contained (c : Nat) (w : World) (hw : HL w) :
    HL (w.dropCmd c) ∧ (∀ q, c < q → ((w.dropCmd c).cmd q).tasks = (w.cmd q).tasks) :=
  let r := World_dropCmd_hl w c hw
  ⟨r.1, r.2.tasks⟩

/-- one poll of a task of command `p` never touches the task slab of `p` itself — its own entry is still what `run_task`
    took — nor of any command above; only `p`'s spawn queue grows, by tasks that host below `p` -/
theorem poll_keeps_own_slab (d : Nat) (wk : Waker) (p : Nat) (b : Block) (w : World) (r : PollRes) (w' : World)
    (h : pollAt d wk (.cmd p) b w = some (r, w')) (hw : HL w) (hb : hostsLtB p b = true) :
    HL w' ∧ (∀ q, p ≤ q → (w'.cmd q).tasks = (w.cmd q).tasks) :=
  let r := pollAt_hl d wk p b w r w' h hw hb
  ⟨r.1, r.2.2.tasks⟩

/-- SIBLING COMMANDS ARE UNAFFECTED (commands without combinators, i.e. the commands a Core hosts side by side): whatever
    polling command `c` does — running its tasks, noticing its abort and dropping every task, cancelling tasks through join
    handles, evicting tasks whose requests were dropped, aborting OTHER commands by name — every other command `d` keeps
    exactly its task slab, its spawn queue, its queued effects and its queued events, its liveness and its abort-flag cell;
    its ready queue can only change together with taking its waker (a wake-up), and an abort flag is never cleared.
    (Step relation `QS` of the scheduling invariant, Lemmas/Q*.lean.) -/
theorem sibling_commands_unaffected_flat (wk : Waker) (c : Nat) (w : World) (r : NextRes) (w' : World)
    (h : pollNext wk c w = some (r, w')) (hc : HFc c w) (d : Nat) (hd : d ≠ c) :
    (w'.cmd d).tasks = (w.cmd d).tasks ∧ (w'.cmd d).spawnQ = (w.cmd d).spawnQ ∧ (w'.cmd d).effects = (w.cmd d).effects ∧
    (w'.cmd d).events = (w.cmd d).events ∧ (w'.cmd d).alive = (w.cmd d).alive ∧
    ((w'.cmd d).ready = (w.cmd d).ready ∨ (w'.cmd d).waker = none) ∧ (w.aborted d = true → w'.aborted d = true) := by
  have q := (pollNext_q wk c w r w' h hc).1
  have hne : some d ≠ some c := fun e => hd (Option.some.inj e)
  have o := q.other d hne
  have oth : (w.modCmd c fun x => { x with waker := some wk }).cmd d = w.cmd d := World.cmd_modCmd_other w c d _ (Ne.symm hd)
  rw [oth] at o
  refine ⟨o.1, o.2.1, o.2.2.1, o.2.2.2, ?_, ?_, ?_⟩
  · rw [q.alive d, oth]
  · have := q.work d hne; rw [oth] at this; exact this
  · intro ha
    refine q.aborted d ?_
    unfold World.aborted at ha ⊢
    rw [oth]
    exact ha

/-- RUNNING ONE COMMAND NEVER STRANDS ANOTHER COMMAND'S TASKS. In a world of commands without combinators in which every
    request channel has at most one waiting task (`RunInv.gb`: the global ownership of C02, with `e` the references held by
    the executor's own tasks), settling the un-aborted command `cid` — polling its tasks, finishing and cancelling them,
    waking join handles, spawning — keeps the invariant `RunInv`: afterwards every stored task of every OTHER live command is
    still on its ready queue, aborted, or LIVE-PARKED at registrations of its own last waker (`gpo`), exactly as it was
    before or better (a join-handle wake-up queues it), and so is every task of `cid` itself (`gp`). The wake registrations of
    siblings are untouched by a command's run (Lemmas/GParkCore.lean: `poll_keeps_others_parked` across commands by
    disjointness of channels, `Pk.finishTask`, the accounting of C02 threaded through the executor loop). -/
theorem running_a_command_never_strands_others (cid : Nat) (e : Nat → Nat) (w w' : World)
    (h : runUntilSettled cid w = some w') (hna : w.aborted cid = false) (hw : RunInv cid e none w) :
    RunInv cid e none w' ∧
    ∀ c', c' ≠ cid → (w'.cmd c').alive = true → c' < w'.cmds.length → ∀ tid t, (w'.cmd c').tasks.get? tid = some t →
      tid ∈ (w'.cmd c').ready ∨ (w'.getMeta t.serial).aborted = true ∨ ∃ s, LPB (.task c' tid s) w' t.fut := by
  have r := runUntilSettled_ri cid e w w' h hna hw
  exact ⟨r, fun c' hne hal hin tid t hg => r.gpo c' hne hal hin tid t hg (fun e => by cases e)⟩

/-- the invariant is satisfiable: the initial world of any host-free task command satisfies it -/
theorem RunInv_nonvacuous (is : List Instr) (hf : hostFreeIs is = true) :
    RunInv (M.Hosts.Direct.new (.task is) false).cid (fun _ => 0) none (M.Hosts.Direct.new (.task is) false).w :=
  M.Hosts.RunInv_init is hf false

/-- … and the abort itself (`AbortHandle::abort`, from the shell or from a task) touches NO command's tasks, spawn queue or
    queued outputs — not even the target's: it sets the flag and wakes the host; the cancellation happens at the next poll -/
theorem abort_only_flags_and_wakes (w : World) (c d : Nat) :
    ((w.abortCmd c).cmd d).tasks = (w.cmd d).tasks ∧ ((w.abortCmd c).cmd d).spawnQ = (w.cmd d).spawnQ ∧
    ((w.abortCmd c).cmd d).effects = (w.cmd d).effects ∧ ((w.abortCmd c).cmd d).events = (w.cmd d).events ∧
    ((w.abortCmd c).cmd d).alive = (w.cmd d).alive :=
  let q := abortCmd_qs none w c
  let o := q.other d (fun e => by cases e)
  ⟨o.1, o.2.1, o.2.2.1, o.2.2.2, q.alive d⟩

/-- STATED, NOT PROVED: after the cancellation point no output is attributable to the cancelled subtree, and the outputs
    of every sibling are those of the run with the cancelled subtree replaced by one that blocks forever
    (non-interference). Covered by the `cancel` profile of the correspondence (every step compared with the model). -/
def siblings_unaffected_goal : Prop :=
  ∀ (a b : Cmd) (acts : List M.Hosts.Action) oa da, M.Hosts.runDirect (.andC (.abortable 0 a) b) true (.abort 0 :: acts) = some (oa, da) →
    ∃ ob db, M.Hosts.runDirect b true acts = some (ob, db)

end Props.C06
