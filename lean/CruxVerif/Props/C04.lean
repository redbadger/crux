/-
C04 — command combinators and builder chains mean what they say.

The reference semantics of the property is M.Rt/M.Hosts itself (validated against the real code on every run; the
oracle compares the per-step multisets of effects and events and the done flag of the implementation with it, and
checks the algebraic laws on the implementation directly).  Proved here, on that semantics, for every program /
world / lower layer:
-/
import CruxVerif.Lemmas.RtTask
namespace Props.C04
open M.Rt

/-- `then`: the command is a task that hosts the first part and then the second -/
theorem then_is_sequential_hosting (env : Env) (a b : Cmd) (w : World) :
    instantiate env (.thenC a b) w =
      (let (ca, w) := instantiate env a w
       let (cb, w) := instantiate env b w
       newCmd env [.host ca .id, .host cb .id] w) := by
  simp [instantiate]

/-- … and the block moves past `host c` only when the hosted command reported the end of its stream, which it does only
    when it is done (no task, no effect, no event left): the second part of `then` starts only after the first has
    completely finished -/
theorem then_sequencing (pn : Waker → Nat → World → Option (NextRes × World)) (f : Nat) (wk : Waker) (me c : Nat)
    (m : Mapper) (env : Env) (rest : List Instr) (w w1 : World)
    (h : hostLoop pn f wk me c m w = some (false, w1)) :
    pollBlock pn (f + 1) wk (.cmd me) (.mk env (.host c m) rest) w = some (.pending (.mk env (.host c m) rest), w1) := by
  simp [pollBlock, h]

theorem host_ends_only_when_done (settle : Nat → World → Option World) (wk : Waker) (cid : Nat) (w w' : World)
    (h : pollNextF settle wk cid w = some (.finished, w')) :
    (w'.cmd cid).effects = [] ∧ (w'.cmd cid).events = [] ∧ (w'.cmd cid).tasks.isEmpty = true :=
  (isDoneNow_iff w' cid).mp (pollNextF_finished settle wk cid w w' h)

/-- hosting forwards every output exactly once: one item pulled from the hosted command = one item pushed (after the
    mapping) into the host's channels, then the loop continues -/
theorem host_forwards_each_once (pn : Waker → Nat → World → Option (NextRes × World)) (f : Nat) (wk : Waker)
    (me c : Nat) (m : Mapper) (w w1 : World) (o : Output) (h : pn wk c w = some (.item o, w1)) :
    hostLoop pn (f + 1) wk me c m w = hostLoop pn f wk me c m (w1.forward me (applyMapper m o)) := by
  simp [hostLoop, h]

/-- `map_effect` transforms every effect and changes nothing else; `map_event` likewise for events -/
theorem map_effect_exact (k : Val) (e : Eff) (ev : Ev) :
    applyMapper (.ef k) (.effect e) = .effect { e with op := { e.op with v := e.op.v + k } } ∧
    applyMapper (.ef k) (.event ev) = .event ev := ⟨rfl, rfl⟩

theorem map_event_exact (k : Val) (e : Eff) (ev : Ev) :
    applyMapper (.ev k) (.event ev) = .event { ev with v := ev.v + k } ∧
    applyMapper (.ev k) (.effect e) = .effect e := ⟨rfl, rfl⟩

/-- mapping with the identity changes nothing -/
theorem map_identity (o : Output) :
    applyMapper .id o = o ∧ applyMapper (.ef 0) o = o ∧ applyMapper (.ev 0) o = o := by
  cases o <;> simp [applyMapper]

/-- `and` / `all`: every sub-command is hosted by its own spawned task of one command -/
theorem and_is_parallel_hosting (env : Env) (a b : Cmd) (w : World) :
    instantiate env (.andC a b) w =
      (let n0 := w.aborts.length
       let (cb, w) := instantiate env b w
       let n1 := w.aborts.length
       let (ca, w) := instantiate env a w
       -- abort handles stay registered in source order (a's, then b's)
       let w := { w with aborts := w.aborts.take n0 ++ w.aborts.drop n1 ++ (w.aborts.drop n0).take (n1 - n0) }
       (ca, spawnOn ca env [.host cb .id] w)) := by
  simp [instantiate]

/-- builder chains are sequential code: each stage's output is the next stage's input, used exactly once -/
theorem chain_then_request (tag x n : Nat) (cur : Expr) (ss : List Stage) :
    chainInstrs tag x cur (.thenReq n :: ss) = .req (x + 1) n cur :: chainInstrs tag (x + 1) (.var (x + 1)) ss := rfl

theorem chain_map (tag x : Nat) (k : Val) (cur : Expr) (ss : List Stage) :
    chainInstrs tag x cur (.map k :: ss) = chainInstrs tag x (.add cur k) ss := rfl

theorem chain_then_send (tag x : Nat) (cur : Expr) : chainInstrs tag x cur [] = [.emit tag cur] := rfl

/-- STATED, NOT PROVED (`stated_not_proved` in the evidence): the unit / singleton / identity-map / commutativity laws
    as observational equivalences of whole interactions, for every command and history. They are checked on the
    implementation and on the model by the `law` / `comm` cases of the correspondence on every run (metamorphic check,
    a test, not a proof); the proof needs the simulation argument (K1–K3 of DESIGN §3.9) through the hosting layer. -/
def laws_goal : Prop :=
  ∀ (c : Cmd) (name : String) (wrapped : Cmd) (acts : List M.Hosts.Action), M.Hosts.wrap name c = some wrapped →
    ∀ oa ob da db, M.Hosts.runDirect c true acts = some (oa, da) → M.Hosts.runDirect wrapped true acts = some (ob, db) →
      oa.map (fun o => (M.Hosts.sortBy M.Hosts.keyLe o.effs, o.events.length, o.done)) =
      ob.map (fun o => (M.Hosts.sortBy M.Hosts.keyLe o.effs, o.events.length, o.done))

/-! tests of the primitives on concrete programs (kernel evaluation) -/
example : ((M.Hosts.runDirect .done false []).map fun r => r.1.map fun o => (o.effs, o.events, o.done)) = some [([], [], some true)] := by decide
example : ((M.Hosts.runDirect (.event 3 (.lit 9)) false []).map fun r => r.1.map fun o => (o.effs.length, o.events, o.done)) =
    some [(0, [⟨3, 9⟩], some true)] := by decide
example : ((M.Hosts.runDirect (.notify 2 (.lit 5)) false []).map fun r => r.1.map fun o => (o.effs.map (·.n), o.events, o.done)) =
    some [([2], [], some true)] := by decide

end Props.C04
