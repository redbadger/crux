/-
C15 — every HTTP result yields exactly one well-classified outcome.

Model: `M.Http.outcome` (conversion `HttpResponse → http_types::Response`, classification, body expectation, error
pass-through).  Specification: `S.Http.okResp`.  All theorems quantify over every status `s : Nat` (hence all of
0..=65535 — handled symbolically: interval split + membership in the 59-row table, the table being evaluated once, in
`Lemmas.Http.validStatus_range`), every header list and body (unbounded lists; induction in
`Lemmas.Http.appendAll_spec`), every shell error, each expectation.

The pinned tree violates the property in four ways (KNOWN_FINDINGS.txt), each modelled as it is:
  * `invalid-status-panics`   — `Response::new(status)` panics outside http-types' table (`invalid_status_exact`);
  * `non-ascii-header-panics` — `append_header` panics on a non-ASCII name or value (`non_ascii_header_exact`);
  * `content-type-injected`   — `set_body` puts `content-type: application/octet-stream` in front of the shell's headers
                                (`content_type_injected_exact`);
  * `utf8-bom-kept-under-other-label` — `expect_string` under a non-UTF-8 label keeps a UTF-8 byte order mark that the
                                decoder removed (`utf8_bom_kept_exact`; region `bomQuirk`).
So the full statements `C15_no_panic`, `C15_headers_same`, `C15_full` are false (`…_false`), `C15_partial` is the
strongest true restriction, `C15_sound_nonfinding` is soundness against the unweakened specification outside the defect
regions, and the four `…_exact` theorems show that inside them the model produces exactly the keyed defect.
-/
import CruxVerif.Lemmas.Http
import CruxVerif.Lemmas.Utf8
namespace Props.C15
open M.Http S.Http Lemmas.Http

theorem invalid_status_panics (r : HttpResponse) (e : Expect) (f : Facts) (hv : isValidStatus r.status = false) :
    outcome (.ok r) e f = .panic .status := by
  simp [outcome, toHttpTypes, hv]

theorem non_ascii_header_panics (r : HttpResponse) (e : Expect) (f : Facts) (hv : isValidStatus r.status = true)
    (ha : asciiHeaders r.headers = false) : outcome (.ok r) e f = .panic .header := by
  have : appendAll (Headers.insert [] ctName [octetStream]) r.headers = none :=
    Option.not_isSome_iff_eq_none.1 (by simp [appendAll_isSome, ha])
  simp [outcome, toHttpTypes, hv, this]

/-- Classification of every status the conversion survives — for *every* natural number `s` (so for all of
    0..=65535) the split is symbolic: `s` outside the 59-row table panics (`invalid_status_panics`); inside it,
    `100 ≤ s ≤ 511` (`validStatus_range`, the only place the table is evaluated), and then `s < 400` is a success with the
    same status and the body expectation applied to the same body, `400 ≤ s` an HTTP error with status and body. -/
theorem classify_valid (r : HttpResponse) (e : Expect) (f : Facts) (hv : isValidStatus r.status = true)
    (ha : asciiHeaders r.headers = true) :
    (r.status < 400 → ∃ hs, outcome (.ok r) e f = applyExpect e f r.status hs r.body ∧
        ∀ n, valuesFor hs n = (if n = ctName then [octetStream] else []) ++ valuesFor r.headers n) ∧
    (400 ≤ r.status → outcome (.ok r) e f = .error (.http r.status (decimal r.status) (some r.body))) := by
  obtain ⟨h, hh, hval⟩ := toHttpTypes_valid r hv ha
  have hr := validStatus_range r.status hv
  constructor
  · intro hlt
    refine ⟨h.flat, ?_, hval⟩
    have : ¬ (400 ≤ r.status) := by omega
    simp [outcome, hh, this]
  · intro hge
    have : r.status < 600 := by omega
    simp [outcome, hh, hge, this]

/-- An error reported by the shell is passed through unchanged, whatever the expectation. -/
theorem passthrough (err : HttpError) (e : Expect) (f : Facts) : outcome (.err err) e f = .error err := rfl

/-- `expect_bytes` (the default): the body is handed over byte for byte. -/
theorem expect_bytes_exact (r : HttpResponse) (f : Facts) (hv : isValidStatus r.status = true)
    (ha : asciiHeaders r.headers = true) (hs : r.status < 400) :
    ∃ hs, outcome (.ok r) .bytes f = .success r.status hs r.body := by
  obtain ⟨hs', h, _⟩ := (classify_valid r .bytes f hv ha).1 hs
  exact ⟨hs', by rw [h]; rfl⟩

/-- a UTF-8 label (or none) and no UTF-16 byte order mark select the UTF-8 decoder; so does a UTF-8 byte order mark
    under any supported label -/
theorem decoderFor_utf8 (f : Facts) (body : Bytes)
    (h : (f.enc = .utf8 ∧ bom16 body = false) ∨ (f.enc = .other ∧ bom8 body = true)) :
    decoderFor f body = .utf8 := by
  rcases h with ⟨h1, h2⟩ | ⟨h1, h2⟩ <;> simp [decoderFor, h1, h2]

/-- `expect_string` under the UTF-8 decoder is `String::from_utf8`: well-formed UTF-8 is handed over unchanged
    (byte for byte), anything else is an error value — never a replacement character, never a panic. -/
theorem expect_string_utf8 (f : Facts) (s : Nat) (hs : List (Bytes × Bytes)) (body : Bytes)
    (hd : decoderFor f body = .utf8) :
    applyExpect .string f s hs body =
      if validUtf8 body then .success s hs body else .error (decodeError utf8Name) := by
  simp only [applyExpect, decodeString, hd]
  by_cases hvu : validUtf8 body = true <;> simp [hvu]

/-- … where "well-formed UTF-8" is the standard's notion, not the model's automaton: under the UTF-8 decoder the app gets
    the body back as a string **iff** the body is the UTF-8 encoding of some sequence of Unicode scalar values (no
    surrogates, nothing above U+10FFFF, no overlong forms); it then gets exactly those bytes. -/
theorem expect_string_utf8_standard (f : Facts) (s : Nat) (hs : List (Bytes × Bytes)) (body : Bytes)
    (hd : decoderFor f body = .utf8) :
    ((∃ cs, cs.all isScalar = true ∧ encodeUtf8 cs = body) → applyExpect .string f s hs body = .success s hs body) ∧
    ((¬ ∃ cs, cs.all isScalar = true ∧ encodeUtf8 cs = body) →
        applyExpect .string f s hs body = .error (decodeError utf8Name)) := by
  rw [expect_string_utf8 f s hs body hd, ← Lemmas.Utf8.validUtf8_iff]
  constructor <;> intro h <;> simp [h]

/-- `expect_json`, parameterised by the JSON decoder's result for the body. -/
theorem expect_json_param (f : Facts) (s : Nat) (hs : List (Bytes × Bytes)) (body : Bytes) :
    (∀ j, f.jd = .ok j → applyExpect .json f s hs body = .success s hs j) ∧
    (∀ m, f.jd = .fail m → applyExpect .json f s hs body = .error (.json m)) := by
  constructor <;> intro x hx <;> simp [applyExpect, hx]

/-- Exactly one outcome: the app receives one event, or the core call panics — and it panics only in the two
    conversion defects. -/
theorem one_outcome (res : HttpResult) (e : Expect) (f : Facts) :
    ((outcome res e f).events = 1 ∧ ∀ c, outcome res e f ≠ .panic c) ∨
    (∃ r, res = .ok r ∧ isValidStatus r.status = false ∧ outcome res e f = .panic .status) ∨
    (∃ r, res = .ok r ∧ isValidStatus r.status = true ∧ asciiHeaders r.headers = false ∧
        outcome res e f = .panic .header) := by
  cases res with
  | err err => left; simp [outcome, Outcome.events]
  | ok r =>
    by_cases hv : isValidStatus r.status = true
    · by_cases ha : asciiHeaders r.headers = true
      · left
        obtain ⟨h1, h2⟩ := classify_valid r e f hv ha
        by_cases hlt : r.status < 400
        · obtain ⟨hs, h, _⟩ := h1 hlt
          rw [h]
          rcases applyExpect_cases e f r.status hs r.body with ⟨b, hb⟩ | ⟨err, hb⟩ <;> rw [hb] <;>
            simp [Outcome.events]
        · rw [h2 (by omega)]; simp [Outcome.events]
      · right; right
        have ha' : asciiHeaders r.headers = false := by simpa using ha
        exact ⟨r, rfl, hv, ha', non_ascii_header_panics r e f hv ha'⟩
    · right; left
      have hv' : isValidStatus r.status = false := by simpa using hv
      exact ⟨r, rfl, hv', invalid_status_panics r e f hv'⟩


/-- Region of the fourth defect (`utf8-bom-kept-under-other-label`): `expect_string`, a supported charset label other
    than UTF-8, and a body that starts with the UTF-8 byte order mark EF BB BF. -/
def bomQuirk (e : Expect) (f : Facts) (body : Bytes) : Bool := e == .string && f.enc == .other && bom8 body

/-- outside that region the model's body expectation delivers what the specification's conforming decoder demands -/
theorem applyExpect_conforms (hdrs : List (Bytes × Bytes) → List (Bytes × Bytes) → Bool)
    (r : HttpResponse) (e : Expect) (f : Facts) (hs : List (Bytes × Bytes))
    (h1 : 100 ≤ r.status) (h2 : r.status < 400) (hh : hdrs r.headers hs = true)
    (hq : bomQuirk e f r.body = false) :
    okRespWith hdrs (.ok r) e f (applyExpect e f r.status hs r.body) = true := by
  rw [okRespWith_success_class _ _ _ _ _ h1 h2]
  cases e with
  | bytes => simp [applyExpect, expectedDecoded, hh]
  | json =>
    simp only [applyExpect, expectedDecoded]
    cases f.jd <;> simp [expectedDecoded.dec, hh]
  | string =>
    simp only [applyExpect, decodeString, decoderFor, expectedDecoded]
    cases henc : f.enc with
    | unknown => simp
    | utf8 =>
      by_cases h16 : bom16 r.body = true
      · simp only [h16, if_true, opaqueDecode]
        cases f.sd <;> simp [expectedDecoded.dec, hh]
      · by_cases hvu : validUtf8 r.body = true <;> simp [h16, hvu, expectedDecoded.utf8, hh]
    | other =>
      have h8 : bom8 r.body = false := by simpa [bomQuirk, henc] using hq
      simp only [h8, opaqueDecode]
      cases f.sd <;> simp [expectedDecoded.dec, hh]

/-- the regions of the two conversion panics -/
def convertible (res : HttpResult) : Prop :=
  ∀ r, res = .ok r → isValidStatus r.status = true ∧ asciiHeaders r.headers = true

/-- **C15, strongest true form.** For every result whose conversion does not panic (status in http-types' table,
    ASCII header names and values) — every status, header list, body, shell error, expectation — the model's outcome is
    accepted by the specification *modulo the injected content type*: classification, status, body, decoding, error
    pass-through and every header value are as specified; the only deviation is one extra leading
    `content-type: application/octet-stream` on successes. -/
theorem C15_partial (res : HttpResult) (e : Expect) (f : Facts) (hc : convertible res)
    (hq : ∀ r, res = .ok r → bomQuirk e f r.body = false) :
    okRespModInjection res e f (outcome res e f) = true := by
  cases res with
  | err err => simp [okRespModInjection, okRespWith, outcome]
  | ok r =>
    obtain ⟨hv, ha⟩ := hc r rfl
    obtain ⟨h1, h2⟩ := classify_valid r e f hv ha
    have hr := validStatus_range r.status hv
    by_cases hlt : r.status < 400
    · obtain ⟨hs, h, hval⟩ := h1 hlt
      rw [h]
      exact applyExpect_conforms _ r e f hs hr.1 hlt (sameHeadersModInjection_of _ _ hval) (hq r rfl)
    · have hge : 400 ≤ r.status := by omega
      have : r.status < 600 := by omega
      rw [h2 hge]
      simp [okRespModInjection, okRespWith, hge, this]

/-- Outside the success class nothing deviates: errors (HTTP errors, decode errors, shell errors) satisfy the full
    specification. -/
theorem C15_sound_nonfinding (res : HttpResult) (e : Expect) (f : Facts) (hc : convertible res)
    (hq : ∀ r, res = .ok r → bomQuirk e f r.body = false)
    (hns : ∀ s hs b, outcome res e f ≠ .success s hs b) :
    okResp res e f (outcome res e f) = true := by
  have h := C15_partial res e f hc hq
  unfold okRespModInjection at h
  unfold okResp
  cases ho : outcome res e f with
  | success s hs b => exact absurd ho (hns s hs b)
  | error err => rw [ho] at h; rw [okRespWith_error sameHeaders sameHeadersModInjection]; exact h
  | panic c =>
    rw [ho] at h
    cases res with
    | err x => simp [okRespWith] at h
    | ok r => rw [okRespWith_panic] at h; cases h



/-- Finding `invalid-status-panics`: a status outside http-types' table — whatever else the response holds — makes the
    conversion panic; the specification rejects that, with exactly this key. -/
theorem invalid_status_exact (r : HttpResponse) (e : Expect) (f : Facts) (hv : isValidStatus r.status = false) :
    outcome (.ok r) e f = .panic .status ∧
    okResp (.ok r) e f (outcome (.ok r) e f) = false ∧
    rejectKeyResp (.ok r) e f (outcome (.ok r) e f) = "invalid-status-panics" := by
  have ho := invalid_status_panics r e f hv
  have hok : okResp (.ok r) e f (.panic .status) = false := okRespWith_panic _ r e f _
  refine ⟨ho, by rw [ho]; exact hok, ?_⟩
  rw [ho]
  unfold rejectKeyResp
  simp [hok, hv]

/-- Finding `non-ascii-header-panics`: a valid status with a header name or value that is not ASCII panics. -/
theorem non_ascii_header_exact (r : HttpResponse) (e : Expect) (f : Facts) (hv : isValidStatus r.status = true)
    (ha : asciiHeaders r.headers = false) :
    outcome (.ok r) e f = .panic .header ∧
    okResp (.ok r) e f (outcome (.ok r) e f) = false ∧
    rejectKeyResp (.ok r) e f (outcome (.ok r) e f) = "non-ascii-header-panics" := by
  have ho := non_ascii_header_panics r e f hv ha
  have hok : okResp (.ok r) e f (.panic .header) = false := okRespWith_panic _ r e f _
  refine ⟨ho, by rw [ho]; exact hok, ?_⟩
  rw [ho]
  unfold rejectKeyResp
  simp [hok, ha]

/-- Finding `content-type-injected`: every success of a convertible response carries the shell's headers plus one
    leading `content-type: application/octet-stream`; the specification rejects exactly that, with this key, and
    everything else about the outcome is as specified (`C15_partial`). -/
theorem content_type_injected_exact (r : HttpResponse) (e : Expect) (f : Facts) (hv : isValidStatus r.status = true)
    (ha : asciiHeaders r.headers = true) (hq : bomQuirk e f r.body = false) (s : Nat) (hs : List (Bytes × Bytes)) (b : Bytes)
    (ho : outcome (.ok r) e f = .success s hs b) :
    s = r.status ∧ 100 ≤ s ∧ s < 400 ∧
    valuesFor hs ctName = octetStream :: valuesFor r.headers ctName ∧
    (∀ n, n ≠ ctName → valuesFor hs n = valuesFor r.headers n) ∧
    okResp (.ok r) e f (outcome (.ok r) e f) = false ∧
    rejectKeyResp (.ok r) e f (outcome (.ok r) e f) = "content-type-injected" := by
  obtain ⟨h1, h2⟩ := classify_valid r e f hv ha
  have hr := validStatus_range r.status hv
  have hlt : r.status < 400 := by
    by_cases hlt : r.status < 400
    · exact hlt
    · rw [h2 (by omega)] at ho; cases ho
  obtain ⟨hs', h, hval⟩ := h1 hlt
  have hsucc : s = r.status ∧ hs = hs' := by
    rw [h] at ho
    rcases applyExpect_cases e f r.status hs' r.body with ⟨b', hb⟩ | ⟨err, hb⟩
    · rw [hb] at ho; injection ho with h1 h2 h3; exact ⟨h1.symm, h2.symm⟩
    · rw [hb] at ho; cases ho
  obtain ⟨hs1, hs2⟩ := hsucc
  subst hs1 hs2
  have hct : valuesFor hs ctName = octetStream :: valuesFor r.headers ctName := by simpa using hval ctName
  have hother : ∀ n, n ≠ ctName → valuesFor hs n = valuesFor r.headers n := by
    intro n hn; simpa [hn] using hval n
  have hok : okResp (.ok r) e f (.success r.status hs b) = false :=
    okRespWith_success_false _ r e f _ _ _ hr.1 hlt (sameHeaders_false_of_injected _ _ hct)
  have hmod : okRespModInjection (.ok r) e f (.success r.status hs b) = true := by
    have := C15_partial (.ok r) e f (by intro r' hr'; injection hr' with hr'; subst hr'; exact ⟨hv, ha⟩)
      (by intro r' hr'; injection hr' with hr'; subst hr'; exact hq)
    rwa [ho] at this
  refine ⟨rfl, hr.1, hlt, hct, hother, by rw [ho]; exact hok, ?_⟩
  rw [ho]
  unfold rejectKeyResp
  simp [hok, hmod]

/-- Finding `utf8-bom-kept-under-other-label`: under a supported non-UTF-8 label a body that starts with the UTF-8 byte
    order mark and is well-formed UTF-8 is handed over *whole* (mark included) — `decode_body` returns the original bytes
    whenever encoding_rs borrowed its output, although the decoder's output has the mark removed.  Whenever the conforming
    decoder's result `x` differs from the body, the specification rejects, with exactly this key. -/
theorem utf8_bom_kept_exact (r : HttpResponse) (f : Facts) (hv : isValidStatus r.status = true)
    (ha : asciiHeaders r.headers = true) (hlt : r.status < 400) (henc : f.enc = .other)
    (h8 : bom8 r.body = true) (hvu : validUtf8 r.body = true) :
    ∃ hs, outcome (.ok r) .string f = .success r.status hs r.body ∧
      ∀ x, f.sd = .ok x → x ≠ r.body →
        okResp (.ok r) .string f (outcome (.ok r) .string f) = false ∧
        rejectKeyResp (.ok r) .string f (outcome (.ok r) .string f) = "utf8-bom-kept-under-other-label" := by
  obtain ⟨hs, h, hval⟩ := (classify_valid r .string f hv ha).1 hlt
  have hr := validStatus_range r.status hv
  have ho : outcome (.ok r) .string f = .success r.status hs r.body := by
    rw [h]; simp [applyExpect, decodeString, decoderFor, henc, h8, hvu]
  refine ⟨hs, ho, ?_⟩
  intro x hx hne
  have hn : ¬ (400 ≤ r.status) := by omega
  have hne' : (r.body == x) = false := by simpa using fun h => hne h.symm
  have hbad : ∀ hdrs, okRespWith hdrs (.ok r) .string f (.success r.status hs r.body) = false := by
    intro hdrs
    rw [okRespWith_success_class _ _ _ _ _ hr.1 hlt]
    simp [expectedDecoded, henc, hx, expectedDecoded.dec, hne']
  have hmod := sameHeadersModInjection_of _ _ hval
  rw [ho]
  refine ⟨hbad _, ?_⟩
  unfold rejectKeyResp
  have h1 : okResp (.ok r) .string f (.success r.status hs r.body) = false := hbad _
  have h2 : okRespModInjection (.ok r) .string f (.success r.status hs r.body) = false := hbad _
  simp [h1, h2, hn, hmod, henc, h8]

/-! ### the full statements, and why they are false in the pinned tree -/

/-- "no response, however unusual, panics the core" -/
def C15_no_panic : Prop := ∀ (r : HttpResponse) (e : Expect) (f : Facts) (c : PanicClass), outcome (.ok r) e f ≠ .panic c

/-- "a 1xx-3xx response becomes a success carrying the same … headers" -/
def C15_headers_same : Prop := ∀ (r : HttpResponse) (e : Expect) (f : Facts) (s : Nat) (hs : List (Bytes × Bytes))
    (b : Bytes), outcome (.ok r) e f = .success s hs b → sameHeaders r.headers hs = true

/-- C15 on the model: every outcome is accepted by the specification -/
def C15_full : Prop := ∀ (res : HttpResult) (e : Expect) (f : Facts), okResp res e f (outcome res e f) = true

def noFacts : Facts := ⟨none, .utf8, .na, .na⟩

/-- status 0 (and 299, 102, 305, 600, 65535 …: anything outside the table) panics -/
theorem C15_no_panic_false : ¬ C15_no_panic := by
  intro h
  exact h ⟨0, [], []⟩ .bytes noFacts .status (by decide)

/-- a response `Content-Type: application/json` reaches the app as `[application/octet-stream, application/json]` -/
theorem C15_headers_same_false : ¬ C15_headers_same := fun h =>
  absurd (h ⟨200, [(ascii "Content-Type", applicationJson)], []⟩ .bytes noFacts 200
    [(ctName, octetStream), (ctName, applicationJson)] [] (by decide)) (by decide)

theorem C15_full_false : ¬ C15_full := by
  intro h
  have := h (.ok ⟨299, [], []⟩) .bytes noFacts
  revert this
  decide

/-! non-vacuity: the witnesses of the four findings and a few accepted / rejected observations, by evaluation -/
example : outcome (.ok ⟨299, [], []⟩) .bytes noFacts = .panic .status := by decide
example : outcome (.ok ⟨65535, [], []⟩) .string noFacts = .panic .status := by decide
example : outcome (.ok ⟨200, [(ascii "x-a", [104, 195, 169, 108, 108, 111])], []⟩) .bytes noFacts = .panic .header := by
  decide
example : outcome (.ok ⟨200, [([120, 45, 195, 169], ascii "v")], []⟩) .bytes noFacts = .panic .header := by decide
example : outcome (.ok ⟨204, [], []⟩) .bytes noFacts
    = .success 204 [(ascii "content-type", ascii "application/octet-stream")] [] := by decide
example : outcome (.ok ⟨404, [(ascii "X-A", ascii "1")], ascii "gone"⟩) .string noFacts
    = .error (.http 404 (ascii "404") (some (ascii "gone"))) := by decide
example : outcome (.ok ⟨200, [], [195, 40]⟩) .string noFacts
    = .error (.http 500 (ascii "could not decode body as UTF-8") none) := by decide
example : outcome (.ok ⟨200, [], [195, 169]⟩) .string noFacts
    = .success 200 [(ascii "content-type", ascii "application/octet-stream")] [195, 169] := by decide
/-- charset=iso-8859-1, body EF BB BF 68 69: the app gets U+FEFF "hi", encoding_rs' decode yields "hi" -/
example : outcome (.ok ⟨200, [], [239, 187, 191, 104, 105]⟩) .string ⟨some (ascii "iso-8859-1"), .other, .ok (ascii "hi"), .na⟩
    = .success 200 [(ascii "content-type", ascii "application/octet-stream")] [239, 187, 191, 104, 105] := by decide
example : validUtf8 [237, 160, 128] = false ∧ validUtf8 [244, 144, 128, 128] = false ∧ validUtf8 [192, 175] = false ∧
    validUtf8 [240, 159, 166, 128] = true ∧ validUtf8 [239, 187, 191, 104] = true ∧ validUtf8 [97, 226, 130] = false := by
  decide
/-- the oracle rejects: a 404 delivered as success; a 503 whose body was dropped; a shell error turned into a response;
    a success with a changed status, a lost header value, a re-encoded body -/
example : okResp (.ok ⟨404, [], [1]⟩) .bytes noFacts (.success 404 [] [1]) = false := by decide
example : okResp (.ok ⟨503, [], [1]⟩) .bytes noFacts (.error (.http 503 (ascii "503") none)) = false := by decide
example : okResp (.err .timeout) .bytes noFacts (.error (.http 500 [] none)) = false := by decide
example : okResp (.ok ⟨201, [], [1]⟩) .bytes noFacts (.success 200 [] [1]) = false := by decide
example : okResp (.ok ⟨200, [(ascii "A", ascii "1"), (ascii "a", ascii "2")], []⟩) .bytes noFacts
    (.success 200 [(ascii "a", ascii "2")] []) = false := by decide
example : okResp (.ok ⟨200, [], [255]⟩) .bytes noFacts (.success 200 [] [195, 191]) = false := by decide
example : okResp (.ok ⟨200, [(ascii "A", ascii "1"), (ascii "a", ascii "2")], [7]⟩) .bytes noFacts
    (.success 200 [(ascii "a", ascii "1"), (ascii "a", ascii "2")] [7]) = true := by decide

end Props.C15
