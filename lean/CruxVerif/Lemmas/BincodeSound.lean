/-
Helper lemmas for C10, direction "every accepted encoding is canonical and denotes a well-typed value":
`dec … bs = some (v, rest) → enc v ++ rest = bs ∧ wt R f v`, by induction on the fuel (outer) and structural
recursion on the format (inner).
-/
import CruxVerif.Lemmas.BincodePrim
namespace Lemmas.Bincode
open M.Schema M.Bincode S.Codec

/-- what a decoder must satisfy to be sound for a set `P` of values -/
def SoundFor (d : Dec) (P : Value → Prop) : Prop :=
  ∀ bs v rest, d bs = some (v, rest) → enc v ++ rest = bs ∧ P v

theorem mapFst_some {α β γ : Type} {f : α → β} {o : Option (α × γ)} {b : β} {c : γ}
    (e : mapFst f o = some (b, c)) : ∃ a, o = some (a, c) ∧ f a = b := by
  cases o with
  | none => cases e
  | some p =>
    obtain ⟨a, c'⟩ := p
    simp only [mapFst, Option.some.injEq, Prod.mk.injEq] at e
    exact ⟨a, by rw [e.2], e.1⟩

theorem decListWith_sound {d : Dec} {P : Value → Prop} (hd : SoundFor d P) :
    ∀ (n : Nat) (bs : Bytes) (vs : List Value) (rest : Bytes), decListWith d n bs = some (vs, rest) →
      encAll vs ++ rest = bs ∧ vs.length = n ∧ ∀ v ∈ vs, P v := by
  intro n
  induction n with
  | zero =>
    intro bs vs rest e
    cases e
    simp [encAll]
  | succ n ih =>
    intro bs vs rest e
    unfold decListWith at e
    split at e
    · cases e
    · rename_i v bs' hv
      split at e
      · cases e
      · rename_i vs' bs'' hvs
        cases e
        obtain ⟨h1, h2⟩ := hd _ _ _ hv
        obtain ⟨h3, h4, h5⟩ := ih _ _ _ hvs
        refine ⟨?_, by simp [h4], ?_⟩
        · simp only [encAll, List.append_assoc, h3, h1]
        · intro w hw
          cases hw with
          | head => exact h2
          | tail _ hw => exact h5 w hw

theorem wtAll_of_forall {R : Registry} {f : Format} : ∀ {vs : List Value}, (∀ v ∈ vs, wt R f v = true) → wtAll R f vs = true
  | [], _ => by simp [wtAll]
  | v :: vs, h => by
    simp only [wtAll, Bool.and_eq_true]
    exact ⟨h v (by simp), wtAll_of_forall (fun w hw => h w (by simp [hw]))⟩

theorem wtPairs_of_forall {R : Registry} {k f : Format} : ∀ {vs : List Value},
    (∀ v ∈ vs, ∃ a b, v = .tuple [a, b] ∧ wt R k a = true ∧ wt R f b = true) → wtPairs R k f vs = true
  | [], _ => by simp [wtPairs]
  | v :: vs, h => by
    obtain ⟨a, b, rfl, ha, hb⟩ := h v (by simp)
    simp only [wtPairs, Bool.and_eq_true]
    exact ⟨⟨ha, hb⟩, wtPairs_of_forall (fun w hw => h w (by simp [hw]))⟩

theorem decPair_sound {dk dv : Dec} {P Q : Value → Prop} (hk : SoundFor dk P) (hv : SoundFor dv Q) :
    SoundFor (decPair dk dv) (fun v => ∃ a b, v = .tuple [a, b] ∧ P a ∧ Q b) := by
  intro bs v rest e
  unfold decPair at e
  split at e
  · cases e
  · rename_i a bs' ha
    split at e
    · cases e
    · rename_i b bs'' hb
      cases e
      obtain ⟨h1, h2⟩ := hk _ _ _ ha
      obtain ⟨h3, h4⟩ := hv _ _ _ hb
      refine ⟨?_, a, b, rfl, h2, h4⟩
      simp only [enc, encAll, List.append_nil, List.append_assoc, h3, h1]

/-- A `u64` length, then that many items: what `seq` and `map` share. -/
theorem decSeqWith_sound {d : Dec} {P : Value → Prop} (hd : SoundFor d P) :
    SoundFor (fun bs => match decNat 8 bs with
        | some (n, r) => mapFst Value.seq (decListWith d n r)
        | none => none)
      (fun v => ∃ vs, v = .seq vs ∧ vs.length < U64 ∧ ∀ w ∈ vs, P w) := by
  intro bs v rest e
  dsimp only at e
  split at e
  · rename_i n r hn
    obtain ⟨vs, hvs, rfl⟩ := mapFst_some e
    obtain ⟨h1, h2⟩ := decNat_some hn
    obtain ⟨h3, rfl, h5⟩ := decListWith_sound hd _ _ _ _ hvs
    exact ⟨by simp only [enc, List.append_assoc, h3, h1], vs, rfl, by simpa using h2, h5⟩
  · cases e

/-- A tag byte `0` or `1` choosing between two decoders: what `bool` and `option` share. -/
theorem tag_some {α : Type} {x y : Bytes → Option (α × Bytes)} {bs rest : Bytes} {a : α}
    (e : (match bs with
      | [] => none
      | b :: r => if b = 0 then x r else if b = 1 then y r else none) = some (a, rest)) :
    ∃ r, (bs = 0 :: r ∧ x r = some (a, rest)) ∨ (bs = 1 :: r ∧ y r = some (a, rest)) := by
  split at e
  · cases e
  · rename_i b r
    split at e
    · exact ⟨r, .inl ⟨by simp [*], e⟩⟩
    · split at e
      · exact ⟨r, .inr ⟨by simp [*], e⟩⟩
      · cases e

/-- the name handler is sound for `TypeName` formats -/
def NameSound (R : Registry) (dn : String → Dec) : Prop :=
  ∀ n, SoundFor (dn n) (fun v => wt R (.typeName n) v = true)

mutual
theorem decF_sound {R : Registry} {dn : String → Dec} (hn : NameSound R dn) :
    ∀ (f : Format), SoundFor (decF dn f) (fun v => wt R f v = true)
  | .typeName n => by
    intro bs v rest e
    simp only [decF] at e
    exact hn n _ _ _ e
  | .unit => by
    intro bs v rest e
    cases e
    simp [enc, encAll, wt]
  | .bool => by
    intro bs v rest e
    simp only [decF] at e
    obtain ⟨r, ⟨rfl, h⟩ | ⟨rfl, h⟩⟩ := tag_some e <;> cases h <;> simp [enc, wt]
  | .num t => by
    intro bs v rest e
    simp only [decF] at e
    obtain ⟨n, rfl, h1, h2⟩ := decNum_some e
    simp [enc, wt, h1, h2]
  | .char => by
    intro bs v rest e
    simp only [decF] at e
    obtain ⟨c, rfl, h1, h2⟩ := decChar_some e
    simp [enc, wt, h1, h2]
  | .str => by
    intro bs v rest e
    simp only [decF] at e
    split at e
    · rename_i s r hs
      split at e
      · cases e
        obtain ⟨h1, h2⟩ := decLenBytes_some hs
        simp [enc, wt, *]
      · cases e
    · cases e
  | .bytes => by
    intro bs v rest e
    simp only [decF] at e
    obtain ⟨s, hs, rfl⟩ := mapFst_some e
    obtain ⟨h1, h2⟩ := decLenBytes_some hs
    simp [enc, wt, h1, h2]
  | .option f => by
    intro bs v rest e
    simp only [decF] at e
    obtain ⟨r, ⟨rfl, h⟩ | ⟨rfl, h⟩⟩ := tag_some e
    · cases h
      simp [enc, wt]
    · obtain ⟨w, hw, rfl⟩ := mapFst_some h
      obtain ⟨h1, h2⟩ := decF_sound hn f _ _ _ hw
      simp [enc, wt, h1, h2]
  | .seq f => by
    intro bs v rest e
    simp only [decF] at e
    obtain ⟨h1, vs, rfl, h2, h3⟩ := decSeqWith_sound (decF_sound hn f) _ _ _ e
    exact ⟨h1, by simp [wt, h2, wtAll_of_forall h3]⟩
  | .map k f => by
    intro bs v rest e
    simp only [decF] at e
    obtain ⟨h1, vs, rfl, h2, h3⟩ := decSeqWith_sound (decPair_sound (decF_sound hn k) (decF_sound hn f)) _ _ _ e
    exact ⟨h1, by simp [wt, h2, wtPairs_of_forall h3]⟩
  | .tuple fs => by
    intro bs v rest e
    simp only [decF] at e
    obtain ⟨vs, hvs, rfl⟩ := mapFst_some e
    obtain ⟨h1, h2⟩ := decT_sound hn fs _ _ _ hvs
    simp [enc, wt, h1, h2]
  | .tupleArray f n => by
    intro bs v rest e
    simp only [decF] at e
    obtain ⟨vs, hvs, rfl⟩ := mapFst_some e
    obtain ⟨h3, h4, h5⟩ := decListWith_sound (decF_sound hn f) _ _ _ _ hvs
    simp [enc, wt, h3, h4, wtAll_of_forall h5]
theorem decT_sound {R : Registry} {dn : String → Dec} (hn : NameSound R dn) :
    ∀ (fs : List Format) (bs : Bytes) (vs : List Value) (rest : Bytes), decT dn fs bs = some (vs, rest) →
      encAll vs ++ rest = bs ∧ wtT R fs vs = true
  | [] => by
    intro bs vs rest e
    cases e
    simp [encAll, wtT]
  | f :: fs => by
    intro bs vs rest e
    simp only [decT] at e
    split at e
    · cases e
    · rename_i v bs' hv
      split at e
      · cases e
      · rename_i vs' bs'' hvs
        cases e
        obtain ⟨h1, h2⟩ := decF_sound hn f _ _ _ hv
        obtain ⟨h3, h4⟩ := decT_sound hn fs _ _ _ hvs
        simp [encAll, wtT, h1, h2, h3, h4]
end

theorem decC_sound {R : Registry} {dn : String → Dec} (hn : NameSound R dn) {n : String} {c : ContainerFormat}
    (hc : lookup n R = some c) : SoundFor (decC dn c) (fun v => wt R (.typeName n) v = true) := by
  intro bs v rest e
  unfold decC at e
  split at e
  ·
    rename_i variants
    split at e
    · rename_i i r hi
      split at e
      · rename_i vf hvf
        obtain ⟨vs, hvs, rfl⟩ := mapFst_some e
        obtain ⟨h1, h2⟩ := decNat_some hi
        obtain ⟨h3, h4⟩ := decT_sound hn _ _ _ _ hvs
        refine ⟨?_, ?_⟩
        · simp only [enc, List.append_assoc, h3, h1]
        · simp only [wt, hc, hvf, h4, Bool.and_eq_true, decide_eq_true_eq, and_true]
          simpa using h2
      · cases e
    · cases e
  ·
    split at e
    · rename_i fs hfs
      obtain ⟨vs, hvs, rfl⟩ := mapFst_some e
      obtain ⟨h3, h4⟩ := decT_sound hn _ _ _ _ hvs
      refine ⟨by simp only [enc, h3], ?_⟩
      simp only [wt, hc, hfs, h4]
    · cases e

theorem decName_sound (R : Registry) : ∀ fuel, NameSound R (decName R fuel)
  | 0 => by
    intro n bs v rest e
    simp [decName] at e
  | fuel + 1 => by
    intro n bs v rest e
    simp only [decName] at e
    split at e
    · rename_i c hc
      exact decC_sound (decName_sound R fuel) hc _ _ _ e
    · cases e

theorem dec_sound {fuel : Nat} {R : Registry} {f : Format} {bs rest : Bytes} {v : Value}
    (e : dec fuel R f bs = some (v, rest)) : enc v ++ rest = bs ∧ wt R f v = true :=
  decF_sound (decName_sound R fuel) f _ _ _ e

end Lemmas.Bincode
