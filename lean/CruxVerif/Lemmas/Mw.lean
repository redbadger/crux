/-
Helper lemmas for Props/C16.lean (middleware stacks and the redirect loop of M.Mw against S.Mw).
-/
import CruxVerif.Spec.Mw
namespace L.Mw
open M.Mw S.Mw

theorem onReq_url (st : List Mw) (req : Req) : (st.foldl (fun r m => onReq m r) req).url = req.url := by
  induction st generalizing req with
  | nil => rfl
  | cons m rest ih =>
    simp only [List.foldl_cons, ih]
    cases m <;> rfl

theorem run_passThrough (w : World) (fixed : Bool) (st : List Mw) (req : Req)
    (h : ∀ m ∈ st, passThrough m = true) :
    run w fixed st req =
      (st.map (fun m => Ev.enter (ident m)) ++ [.shell (st.foldl (fun r m => onReq m r) req)] ++
        st.reverse.map (fun m => Ev.exit (ident m)), w.srv req.url) := by
  induction st generalizing req with
  | nil => rfl
  | cons m rest ih =>
    obtain ⟨hm, hr⟩ := List.forall_mem_cons.1 h
    cases m with
    | pass k => simp [run, ih _ hr, ident, onReq]
    | tag k => simp [run, ih _ hr, ident, onReq, Req.append]
    | _ => cases hm

theorem run_cut (w : World) (fixed : Bool) (m : Mw)
    (hm : ∀ rest req, run w fixed (m :: rest) req = run w fixed [m] req) (pre rest : List Mw) (req : Req) :
    run w fixed (pre ++ m :: rest) req = run w fixed (pre ++ [m]) req := by
  induction pre generalizing req with
  | nil => exact hm rest req
  | cons m' pre ih => cases m' <;> simp only [List.cons_append, run, ih]

theorem shells_local (w : World) (fixed : Bool) (st : List Mw) (req : Req)
    (h : ∀ m ∈ st, isLocal m = true) : shells (run w fixed st req).1 = mult st := by
  induction st generalizing req with
  | nil => rfl
  | cons m rest ih =>
    obtain ⟨hm, hr⟩ := List.forall_mem_cons.1 h
    have ih' := fun r => ih r hr
    simp only [shells] at ih' ⊢
    cases m with
    | pass k => simp [run, mult, List.countP_append, isShell, ih']
    | tag k => simp [run, mult, List.countP_append, isShell, ih']
    | short k s => rfl
    | fail k => rfl
    | twice k => simp [run, mult, List.countP_append, isShell, ih']; omega
    | issue k u a => cases hm
    | redirect a => cases hm

theorem isLocal_of_passThrough {m : Mw} (h : passThrough m = true) : isLocal m = true := by
  cases m with
  | issue k u a => cases h
  | redirect a => cases h
  | _ => rfl

theorem mult_passThrough (st : List Mw) (h : ∀ m ∈ st, passThrough m = true) : mult st = 1 := by
  induction st with
  | nil => rfl
  | cons m rest ih =>
    obtain ⟨hm, hr⟩ := List.forall_mem_cons.1 h
    cases m with
    | pass k => exact ih hr
    | tag k => exact ih hr
    | _ => cases hm

/-- in the last case the URL may be unchanged: `{ req with url := req.url }` is `req` -/
theorem step_cases (w : World) (fixed : Bool) (req : Req) (base : Url) :
    (∃ e, redirectStep w fixed req base = .stop (.err e)) ∨
    (redirectStep w fixed req base = .stop (.ok req) ∧ ¬ redirecting w req.url) ∨
    (∃ u b, redirectStep w fixed req base = .next { req with url := u } b ∧ redirecting w req.url) := by
  unfold redirectStep
  cases hsrv : w.srv req.url with
  | err e => exact .inl ⟨e, rfl⟩
  | ok res =>
    by_cases hs : isRedirect res.status = true
    · have hr : redirecting w req.url := ⟨res, hsrv, hs⟩
      simp only [hs, if_true]
      cases res.locs.getLast? with
      | none => exact .inr (.inr ⟨req.url, base, rfl, hr⟩)
      | some loc =>
        dsimp only
        cases w.parse loc with
        | none => exact .inl ⟨_, rfl⟩
        | some p =>
          cases p with
          | abs v => exact .inr (.inr ⟨v, v, rfl, hr⟩)
          | bad => exact .inl ⟨_, rfl⟩
          | rel =>
            dsimp only
            cases w.join base loc with
            | none => exact .inl ⟨_, rfl⟩
            | some j =>
              cases j with
              | ok u => exact .inr (.inr ⟨u, _, rfl, hr⟩)
              | bad => exact .inl ⟨_, rfl⟩
    · refine .inr (.inl ⟨by simp only [hs, Bool.false_eq_true, if_false], fun ⟨res', hr', hs'⟩ => ?_⟩)
      rw [hsrv] at hr'
      cases hr'
      exact hs hs'

theorem step_next (w : World) (fixed : Bool) (req : Req) (base : Url) (req' : Req) (base' : Url)
    (h : redirectStep w fixed req base = .next req' base') : SameButUrl req' req ∧ redirecting w req.url := by
  rcases step_cases w fixed req base with ⟨e, he⟩ | ⟨he, -⟩ | ⟨u, b, he, hr⟩ <;> rw [he] at h
  · cases h
  · cases h
  · cases h; exact ⟨⟨rfl, rfl, rfl⟩, hr⟩

theorem step_stop_ok (w : World) (fixed : Bool) (req : Req) (base : Url) (r : Req)
    (h : redirectStep w fixed req base = .stop (.ok r)) : r = req ∧ ¬ redirecting w req.url := by
  rcases step_cases w fixed req base with ⟨e, he⟩ | ⟨he, hn⟩ | ⟨u, b, he, -⟩ <;> rw [he] at h
  · cases h
  · cases h; exact ⟨rfl, hn⟩
  · cases h

theorem SameButUrl.trans {a b c : Req} (h1 : SameButUrl a b) (h2 : SameButUrl b c) : SameButUrl a c :=
  ⟨h1.1.trans h2.1, h1.2.1.trans h2.2.1, h1.2.2.trans h2.2.2⟩

theorem clone_eq_probe (req r : Req) (h : SameButUrl r req) : Ev.shell r.clone = probe req r.url := by
  obtain ⟨h1, h2, _⟩ := h
  cases r; cases req
  simp_all [Req.clone, probe]

theorem loop_length (w : World) (fixed : Bool) (n : Nat) (req : Req) (base : Url) :
    (redirectLoop w fixed n req base).1.length ≤ n := by
  induction n generalizing req base with
  | zero => simp [redirectLoop]
  | succ n ih =>
    unfold redirectLoop
    split
    · simp
    · simp; exact ih _ _

theorem loop_probes (w : World) (fixed : Bool) (n : Nat) (orig req : Req) (base : Url) (hs : SameButUrl req orig) :
    (∀ e ∈ (redirectLoop w fixed n req base).1, IsProbeOf orig e) ∧
    (∀ r, (redirectLoop w fixed n req base).2 = .ok r → SameButUrl r orig) := by
  induction n generalizing req base with
  | zero =>
    simp only [redirectLoop]
    exact ⟨by simp, fun r h => by cases h; exact hs⟩
  | succ n ih =>
    unfold redirectLoop
    split
    · rename_i r hstep
      refine ⟨?_, ?_⟩
      · intro e he
        simp at he
        exact ⟨req.url, by rw [he]; exact clone_eq_probe orig req hs⟩
      · intro r' hr'
        simp at hr'
        subst hr'
        rw [(step_stop_ok w fixed req base r' hstep).1]
        exact hs
    · rename_i req' base' hstep
      have hs' : SameButUrl req' orig := SameButUrl.trans ((step_next w fixed req base req' base' hstep).1) hs
      obtain ⟨ih1, ih2⟩ := ih req' base' hs'
      refine ⟨?_, ih2⟩
      intro e he
      simp at he
      rcases he with he | he
      · exact ⟨req.url, by rw [he]; exact clone_eq_probe orig req hs⟩
      · exact ih1 e he

theorem loop_stops (w : World) (fixed : Bool) (n : Nat) (req : Req) (base : Url)
    (pre : Trace) (p : Req) (post : Trace)
    (h : (redirectLoop w fixed n req base).1 = pre ++ .shell p :: post) (hp : ¬ redirecting w p.url) :
    post = [] := by
  induction n generalizing req base pre with
  | zero => simp [redirectLoop] at h
  | succ n ih =>
    unfold redirectLoop at h
    split at h
    · simp at h
      cases pre with
      | nil => simp at h; exact h.2
      | cons a pre => simp at h
    · rename_i req' base' hstep
      simp at h
      cases pre with
      | nil =>
        simp at h
        obtain ⟨h1, _⟩ := h
        have : p.url = req.url := by rw [← h1]; rfl
        exact absurd (step_next w fixed req base req' base' hstep).2 (by rw [← this]; exact hp)
      | cons a pre =>
        simp at h
        exact ih req' base' pre h.2

/-! The loop is the documented walk: for the repaired code always, for the code as it is when no relative hop follows a
relative hop. -/

/-- `base_url` is the current URL, or (code as it is) the current URL came out of a join -/
def BaseInv (w : World) (fixed : Bool) (req : Req) (base : Url) : Prop :=
  base = req.url ∨ fixed = false ∧ ∃ b loc, w.join b loc = some (.ok req.url)

/-- A relative Location is joined to `base`, which is the current URL, unless the current URL came out of a join: then
    `hw` rules a relative Location out. -/
theorem step_hop (w : World) (fixed : Bool) (hw : fixed = false → NoRelAfterRel w) (req : Req) (base : Url)
    (hinv : BaseInv w fixed req base) :
    match hop w req.url with
    | .done => redirectStep w fixed req base = .stop (.ok req)
    | .fail e => redirectStep w fixed req base = .stop (.err e)
    | .stay => redirectStep w fixed req base = .next req base
    | .to u => ∃ b, redirectStep w fixed req base = .next { req with url := u } b ∧
        BaseInv w fixed { req with url := u } b := by
  unfold redirectStep hop
  cases hsrv : w.srv req.url with
  | err e => rfl
  | ok res =>
    by_cases hs : isRedirect res.status = true
    · simp only [hs, if_true, Bool.not_true, Bool.false_eq_true, if_false]
      cases hl : res.locs.getLast? with
      | none => rfl
      | some loc =>
        simp only
        cases hp : w.parse loc with
        | none => rfl
        | some p =>
          cases p with
          | abs v => exact ⟨v, rfl, .inl rfl⟩
          | bad => rfl
          | rel =>
            rcases hinv with rfl | ⟨hf, b, l, hj⟩
            · simp only
              cases hj : w.join req.url loc with
              | none => rfl
              | some j =>
                cases j with
                | bad => rfl
                | ok u =>
                  refine ⟨_, rfl, ?_⟩
                  cases fixed
                  · exact .inr ⟨rfl, req.url, loc, hj⟩
                  · exact .inl rfl
            · exact absurd hp (hw hf b l req.url hj res hsrv hs loc hl)
    · simp [hs]

theorem probe_url (req : Req) (u v : Url) : probe { req with url := u } v = probe req v := rfl

theorem loop_walk (w : World) (fixed : Bool) (hw : fixed = false → NoRelAfterRel w) (n : Nat) (req : Req) (base : Url)
    (hinv : BaseInv w fixed req base) :
    redirectLoop w fixed n req base =
      ((walk w n req.url).1.map (probe req),
        match (walk w n req.url).2 with
        | .final u => .ok { req with url := u }
        | .fail e => .err e) := by
  induction n generalizing req base with
  | zero => simp [redirectLoop, walk]
  | succ n ih =>
    unfold redirectLoop walk
    have hc : Ev.shell req.clone = probe req req.url := clone_eq_probe req req ⟨rfl, rfl, rfl⟩
    have hstep := step_hop w fixed hw req base hinv
    cases hh : hop w req.url with
    | done => rw [hh] at hstep; simp [hstep, hc]
    | fail e => rw [hh] at hstep; simp [hstep, hc]
    | stay => rw [hh] at hstep; simp [hstep, hc, ih req base hinv]
    | to u =>
      rw [hh] at hstep
      obtain ⟨b, hb, hinv'⟩ := hstep
      have := ih { req with url := u } b hinv'
      simp only at this
      simp [hb, hc, this, probe_url]

theorem loop_fixed_walk (w : World) (n : Nat) (req : Req) :
    redirectLoop w true n req req.url =
      ((walk w n req.url).1.map (probe req),
        match (walk w n req.url).2 with
        | .final u => .ok { req with url := u }
        | .fail e => .err e) :=
  loop_walk w true nofun n req req.url (.inl rfl)

theorem issued_fixed (w : World) (u : Url) (att : Option Nat) : issued w true u att = issuedReq w u att := by
  cases att with
  | none => rfl
  | some a =>
    have h := loop_fixed_walk w a (getReq u)
    simp only [getReq] at h
    simp only [issued, issuedReq, redirect, getReq, h]
    cases (walk w a u).2 <;> simp

/-- `Next::run` of the repaired code is the right fold of the documented handlers over the endpoint -/
theorem run_fixed_foldr (w : World) (st : List Mw) (req : Req) :
    run w true st req = st.foldr (sem w) (endpoint w) req := by
  induction st generalizing req with
  | nil => rfl
  | cons m rest ih =>
    cases m with
    | issue k u a =>
      simp only [run, List.foldr_cons, sem, issued_fixed]
      cases h : (issuedReq w u a) with
      | mk t r => cases r <;> simp [ih]
    | redirect a =>
      simp only [run, List.foldr_cons, sem, redirect, loop_fixed_walk]
      cases (walk w a req.url).2 <;> simp [ih]
    | _ => simp [run, sem, ih]

theorem send_fixed_chain (w : World) (client st : List Mw) (req : Req) :
    send w true client st req = chain w client st req := by
  simp [send, chain, run_fixed_foldr, List.foldr_append]

theorem loop_unfixed_eq (w : World) (hw : NoRelAfterRel w) (n : Nat) (req : Req) (base : Url)
    (hinv : BaseInv w false req base) :
    redirectLoop w false n req base = redirectLoop w true n req req.url := by
  rw [loop_walk w false (fun _ => hw) n req base hinv, loop_fixed_walk]

theorem issued_unfixed_eq (w : World) (hw : NoRelAfterRel w) (u : Url) (att : Option Nat) :
    issued w false u att = issued w true u att := by
  cases att with
  | none => rfl
  | some a =>
    have := loop_unfixed_eq w hw a (getReq u) u (Or.inl rfl)
    simp only [getReq] at this
    simp only [issued, getReq, this]

theorem run_unfixed_eq (w : World) (hw : NoRelAfterRel w) (st : List Mw) (req : Req) :
    run w false st req = run w true st req := by
  induction st generalizing req with
  | nil => rfl
  | cons m rest ih =>
    cases m <;> simp only [run, ih, issued_unfixed_eq w hw, loop_unfixed_eq w hw _ req req.url (Or.inl rfl)]

end L.Mw
