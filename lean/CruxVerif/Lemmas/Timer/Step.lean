/-
One step of one timer against the specification's monitor (C18, command API).

`step` is `act` (something happens to the timer) followed by `settle` (its command is run if asked to and woken), and
the monitor mirrors the two halves: `Mon.mid` reads the action, `Mon.after` reads what the run showed.  Each half is
proved on its own — the action never looks at the clauses, the run never looks at the action — by splitting only the
fields that half inspects and leaving the rest of the state symbolic.  `central` and `closed` put the halves together.
-/
import CruxVerif.Lemmas.Timer.Base
namespace Lemmas.Timer
open M.Timer S.Timer

def settle (u : Timer) (res : Res) (ran : Bool) : Timer × Out :=
  if ran && u.woken then
    let (t2, p) := runTask { u with woken := false }
    if p.panicked then (t2, { res := .panic })
    else (t2, { res := res, effects := p.effects, events := p.events, done := t2.terminal })
  else (u, { res := res, done := u.terminal })

theorem step_eq_settle (t : Timer) (a : Act) (ran : Bool) (h : t.ctl ≠ .panicked) :
    step t a ran = settle (act t a).1 (act t a).2 ran := by
  simp only [step, settle, h, if_false]

theorem oresp_cases (g : Resp) (ra : Option Resp) : ra = none ∨ ra = some g ∨ ∃ w, ra = some w ∧ w ≠ g := by
  cases ra with
  | none => exact Or.inl rfl
  | some w =>
    by_cases h : w = g
    · exact Or.inr (Or.inl (by rw [h]))
    · exact Or.inr (Or.inr ⟨w, rfl, h⟩)

/-- closes a goal about `act` once the fields the action inspects are constructors -/
macro "act_bash" : tactic => `(tactic|
  simp_all (config := {decide := true}) [act, Req.resolve, Req.drop, Req.open, Timer.live,
      inv, poisonedSt, abs, Mon.mid, good_eq, bne, ctl_beq, shell_beq, handle_beq, res_beq])

/-! An action does something only to the one component it addresses, and only when that component is in the one state
it acts on (a request the shell holds; a live handle); everywhere else it returns the timer as it was (`act_idle`
disposes of those cases without looking at the control state). -/

/-- the action found nothing to act on -/
macro "act_idle" : tactic => `(tactic|
  simp_all (config := {decide := true}) [act, Req.resolve, Req.drop, Req.open, Mon.mid, abs, res_beq, shell_beq])

/-- The action half.  A poisoned state stays poisoned because an action never changes the control state and never
    replaces a delivered response; a state becomes poisoned only by a delivered response (last conjunct). -/
theorem act_spec (t : Timer) (a : Act) (hi : inv t = true) :
    inv (act t a).1 = true ∧
    (poisonedSt t = true → poisonedSt (act t a).1 = true) ∧
    (poisonedSt t = false →
      ((abs t).mid t.kind t.id a (act t a).2).poisoned = poisonedSt (act t a).1 ∧
      (poisonedSt (act t a).1 = false → (abs t).mid t.kind t.id a (act t a).2 = abs (act t a).1) ∧
      (poisonedSt (act t a).1 = true → (act t a).2 = .ok)) := by
  rcases t with ⟨k, id, ctl, handle, woken, ⟨rs, ra⟩, ⟨cs, ca⟩⟩
  cases a with
  | tick => act_idle
  | clear | dropHandle =>
    cases handle
    case alive => cases ctl <;> act_bash
    all_goals act_idle
  | resolveReq v =>
    cases rs
    case held =>
      cases ra
      case none => by_cases hv : v = goodResp k id <;> cases ctl <;> act_bash
      case some => cases ctl <;> act_bash
    all_goals act_idle
  | dropReq =>
    cases rs
    case held => rcases oresp_cases (goodResp k id) ra with rfl | rfl | ⟨w, rfl, hw⟩ <;> cases ctl <;> act_bash
    all_goals act_idle
  | resolveClr v =>
    cases cs
    case held =>
      cases ca
      case none => by_cases hv : v = Resp.cleared id <;> cases ctl <;> act_bash
      case some => cases ctl <;> act_bash
    all_goals act_idle
  | dropClr =>
    cases cs
    case held => rcases oresp_cases (Resp.cleared id) ca with rfl | rfl | ⟨w, rfl, hw⟩ <;> cases ctl <;> act_bash
    all_goals act_idle

/-- closes a goal about `settle` once the fields `runTask` inspects are constructors: unfolds the poll and every clause -/
macro "settle_bash" : tactic => `(tactic|
  simp_all (config := {decide := true}) [settle, runTask, Timer.terminal,
      inv, poisonedSt, abs, Mon.after, entryOfOut, allClauses, clauses, good_eq, bne, ctl_beq, shell_beq, handle_beq,
      res_beq, noPanic, ownIds, quietUnlessRan, oneOutcome, completedOnlyIfAnswered, clearedOnlyIfCleared,
      earlyClearSilent, clearOnlyIfAppCleared, oneClear, requestSentWhenDue, clearSentWhenDue, answerWins,
      clearedReported, lateIgnored])

/-- The run half: the clauses are read against the summary of the state the run started from.  They do not look at
    the entry's action, so `a` is arbitrary. -/
theorem settle_sim (u : Timer) (a : Act) (res : Res) (ran : Bool) (hi : inv u = true) (hp : poisonedSt u = false)
    (h1 : res ≠ .panic) (h2 : res ≠ .dead) :
    inv (settle u res ran).1 = true ∧ poisonedSt (settle u res ran).1 = false ∧ (settle u res ran).2.res = res ∧
    allClauses u.kind u.id (abs u) (abs u) (entryOfOut a ran (settle u res ran).2) = true ∧
    (abs u).after u.kind u.id (entryOfOut a ran (settle u res ran).2) = abs (settle u res ran).1 := by
  rcases u with ⟨k, id, ctl, handle, woken, ⟨rs, ra⟩, ⟨cs, ca⟩⟩
  cases ran
  case false =>
    simp_all (config := {decide := true}) [settle, abs, Mon.after, entryOfOut, allClauses, clauses, res_beq, noPanic, ownIds,
      quietUnlessRan, oneOutcome, completedOnlyIfAnswered, clearedOnlyIfCleared, earlyClearSilent, clearOnlyIfAppCleared,
      oneClear, requestSentWhenDue, clearSentWhenDue, answerWins, clearedReported, lateIgnored]
  cases woken <;> cases ctl
  -- the task is polled: `runTask` looks at the handle when not started, at the answer, the handle and the request
  -- when waiting, at the Clear request when its answer is awaited
  case true.notStarted => cases handle <;> settle_bash
  case true.waiting =>
    rcases oresp_cases (goodResp k id) ra with rfl | rfl | ⟨w, rfl, hw⟩
    · cases handle <;> cases rs <;> settle_bash
    · settle_bash
    · settle_bash
  case true.clearPending =>
    rcases oresp_cases (Resp.cleared id) ca with rfl | rfl | ⟨w, rfl, hw⟩ <;> cases cs <;> settle_bash
  -- the two shapes of an evicted state in `inv` are told apart by handle and request
  case true.evicted | false.evicted => cases handle <;> cases rs <;> settle_bash
  all_goals settle_bash

theorem settle_closed (u : Timer) (res : Res) (ran : Bool) (hi : inv u = true) (hp : poisonedSt u = true) :
    inv (settle u res ran).1 = true ∧ poisonedSt (settle u res ran).1 = true ∧
    ((settle u res ran).2.res = res ∨ (settle u res ran).2.res = .panic) := by
  rcases u with ⟨k, id, ctl, handle, woken, ⟨rs, ra⟩, ⟨cs, ca⟩⟩
  cases ctl <;> first | (simp [poisonedSt] at hp; done) | skip
  case waiting => cases ra <;> cases ran <;> cases woken <;> settle_bash
  case clearPending => cases ca <;> cases ran <;> cases woken <;> settle_bash
  case panicked => cases ran <;> cases woken <;> settle_bash

/-- the three fields of the history that the action half never touches, and the only ones the clauses read from
    the history before the entry -/
theorem mid_keeps (m : Mon) (k : Kind) (id : Nat) (a : Act) (res : Res) :
    (m.mid k id a res).outcome = m.outcome ∧ (m.mid k id a res).clearSent = m.clearSent ∧
    (m.mid k id a res).requested = m.requested := by
  unfold Mon.mid
  split <;> simp

theorem allClauses_congr (k : Kind) (id : Nat) (m m' md : Mon) (e : Entry) (ho : m.outcome = m'.outcome)
    (hc : m.clearSent = m'.clearSent) (hr : m.requested = m'.requested) :
    allClauses k id m md e = allClauses k id m' md e := by
  simp [allClauses, clauses, lateIgnored, oneOutcome, oneClear, requestSentWhenDue, ho, hc, hr]

theorem mid_panic (m : Mon) (k : Kind) (id : Nat) (a : Act) : m.mid k id a .panic = m.mid k id a .ok := rfl

theorem act_kind_id (t : Timer) (a : Act) : (act t a).1.kind = t.kind ∧ (act t a).1.id = t.id := by
  cases a <;> simp only [act] <;> (try split) <;> simp

theorem not_panicked {t : Timer} (hp : poisonedSt t = false) : t.ctl ≠ .panicked := by
  intro h; simp [poisonedSt, h] at hp

theorem act_res (t : Timer) (a : Act) : (act t a).2 ≠ .panic ∧ (act t a).2 ≠ .dead := by
  cases a <;> simp only [act, Req.resolve, Req.drop] <;> (repeat' split) <;> simp

theorem central (t : Timer) (a : Act) (ran : Bool) (hi : inv t = true) (hp : poisonedSt t = false) :
    Central t a ran := by
  obtain ⟨hi1, _, hsim⟩ := act_spec t a hi
  obtain ⟨hpo, habs, hok⟩ := hsim hp
  obtain ⟨hk, hid⟩ := act_kind_id t a
  simp only [Central, step_eq_settle t a ran (not_panicked hp)]
  cases hp1 : poisonedSt (act t a).1 with
  | false =>
    obtain ⟨h1, h2, h3, h4, h5⟩ := settle_sim (act t a).1 a (act t a).2 ran hi1 hp1 (act_res t a).1 (act_res t a).2
    have hm := habs hp1
    obtain ⟨ko, kc, kr⟩ := mid_keeps (abs t) t.kind t.id a (act t a).2
    rw [hk, hid] at h4 h5
    rw [h3, hm]
    refine ⟨h1, h2.symm, fun _ => ⟨?_, h5⟩⟩
    rw [← h4]
    exact allClauses_congr _ _ _ _ _ _ (by rw [← hm, ko]) (by rw [← hm, kc]) (by rw [← hm, kr])
  | true =>
    obtain ⟨h1, h2, h3⟩ := settle_closed (act t a).1 (act t a).2 ran hi1 hp1
    have hmd : ((abs t).mid t.kind t.id a (settle (act t a).1 (act t a).2 ran).2.res).poisoned = true := by
      rcases h3 with h3 | h3 <;> rw [h3]
      · rw [hpo, hp1]
      · rw [mid_panic, ← hok hp1, hpo, hp1]
    refine ⟨h1, by rw [hmd, h2], fun h => ?_⟩
    rw [hmd] at h; cases h

/-- poisoned states stay poisoned and well-formed -/
def Closed (t : Timer) (a : Act) (ran : Bool) : Prop :=
  inv (step t a ran).1 = true ∧ poisonedSt (step t a ran).1 = true

theorem closed (t : Timer) (a : Act) (ran : Bool) (hi : inv t = true) (hp : poisonedSt t = true) :
    Closed t a ran := by
  by_cases hc : t.ctl = .panicked
  · simp [Closed, step, hc, hi, hp]
  · obtain ⟨hi1, hp1, _⟩ := act_spec t a hi
    obtain ⟨h3, h4, _⟩ := settle_closed (act t a).1 (act t a).2 ran hi1 (hp1 hp)
    exact ⟨by rw [step_eq_settle t a ran hc]; exact h3, by rw [step_eq_settle t a ran hc]; exact h4⟩

end Lemmas.Timer
