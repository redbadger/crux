/-
Both APIs in one app (host `mixed`): the invariant of the joint state — one counter above every id handed out by
either API, ids pairwise distinct across both APIs, the legacy part consistent — preserved by every case step.
-/
import CruxVerif.Lemmas.Timer.LegacyWorld
import CruxVerif.Lemmas.Timer.Sim
namespace Lemmas.Timer
open M.Timer S.Timer

/-- the id of the command-API timer at position `j`, if that position is one and the timer exists -/
def cid (cmds : List (Option CSlot)) (j : Nat) : Option Nat :=
  match cmds[j]? with
  | some (some slot) => slot.timer.map (·.id)
  | _ => none

def isCmd (cmds : List (Option CSlot)) (j : Nat) : Bool :=
  match cmds[j]? with
  | some (some _) => true
  | _ => false

def isLeg (cmds : List (Option CSlot)) (j : Nat) : Bool :=
  match cmds[j]? with
  | some none => true
  | _ => false

theorem cmdStepAll_get (cmds : List (Option CSlot)) (i : Nat) (a : Act) (idle : Res) (j : Nat) :
    ((cmdStepAll cmds i a idle).map (·.1))[j]? = (cmds[j]?).map fun s =>
      match s with
      | some slot => some { slot with timer := slot.timer.map fun t => (step t (if j == i then a else .tick) true).1 }
      | none => none := by
  simp only [cmdStepAll, List.getElem?_map, List.getElem?_mapIdx]
  cases cmds[j]? with
  | none => rfl
  | some s =>
    cases s with
    | none => rfl
    | some slot =>
      cases h : slot.timer with
      | none => simp [h]; cases slot; simp_all
      | some t => simp [h]

theorem cmdStepAll_out (cmds : List (Option CSlot)) (i : Nat) (a : Act) (idle : Res) (j : Nat) :
    ((cmdStepAll cmds i a idle).map (·.2)).getD j {} =
      match cmds[j]? with
      | some (some slot) =>
        (match slot.timer with
         | some t => (step t (if j == i then a else .tick) true).2
         | none => if j == i then { res := idle } else {})
      | _ => {} := by
  simp only [cmdStepAll, List.getD_eq_getElem?_getD, List.getElem?_map, List.getElem?_mapIdx]
  cases cmds[j]? with
  | none => rfl
  | some s =>
    cases s with
    | none => rfl
    | some slot => cases h : slot.timer <;> simp [h]

theorem cmdStepAll_length (cmds : List (Option CSlot)) (i : Nat) (a : Act) (idle : Res) :
    ((cmdStepAll cmds i a idle).map (·.1)).length = cmds.length := by
  simp [cmdStepAll]

theorem cmdStepAll_cid (cmds : List (Option CSlot)) (i : Nat) (a : Act) (idle : Res) (j : Nat) :
    cid ((cmdStepAll cmds i a idle).map (·.1)) j = cid cmds j ∧
    isCmd ((cmdStepAll cmds i a idle).map (·.1)) j = isCmd cmds j := by
  simp only [cid, isCmd, cmdStepAll_get]
  cases cmds[j]? with
  | none => exact ⟨rfl, rfl⟩
  | some s =>
    cases s with
    | none => exact ⟨rfl, rfl⟩
    | some slot =>
      cases h : slot.timer with
      | none => simp [h]
      | some t => simp [h, step_id]

/-- the joint state is consistent -/
structure MInv (w : MWorld) : Prop where
  lwinv : WInv w.lw
  len : w.cmds.length = w.lw.timers.length
  cmdlt : ∀ (j x : Nat), cid w.cmds j = some x → x < w.lw.counter
  cmddistinct : ∀ (i j x : Nat), cid w.cmds i = some x → cid w.cmds j = some x → i = j
  cross : ∀ (i j x : Nat) (t : LTimer), cid w.cmds i = some x → w.lw.timers[j]? = some t → t.id ≠ some x
  unused : ∀ (j : Nat) (t : LTimer), isCmd w.cmds j = true → w.lw.timers[j]? = some t → t.id = none

theorem idAt_cmd (w : MWorld) (j x : Nat) (hc : isCmd w.cmds j = true) (hx : w.idAt j = some x) :
    cid w.cmds j = some x := by
  unfold MWorld.idAt at hx
  unfold isCmd at hc
  unfold cid
  split at hx <;> simp_all

theorem idAt_leg (w : MWorld) (j x : Nat) (hc : isCmd w.cmds j = false) (hx : w.idAt j = some x) :
    ∃ t, w.lw.timers[j]? = some t ∧ t.id = some x := by
  unfold MWorld.idAt at hx
  unfold isCmd at hc
  split at hx
  · simp_all
  · cases ht : w.lw.timers[j]? with
    | none => rw [ht] at hx; cases hx
    | some t => rw [ht] at hx; exact ⟨t, rfl, hx⟩
  · cases hx

theorem minv_ids (w : MWorld) (h : MInv w) :
    (∀ j x, w.idAt j = some x → x < w.lw.counter) ∧
    (∀ i j x, w.idAt i = some x → w.idAt j = some x → i = j) := by
  have hleg := idAt_leg w
  have hcmd := idAt_cmd w
  constructor
  · intro j x hx
    cases hc : isCmd w.cmds j with
    | true => exact h.cmdlt j x (hcmd j x hc hx)
    | false => obtain ⟨t, ht, hid⟩ := hleg j x hc hx; exact h.lwinv.idlt j t x ht hid
  · intro i j x hi hj
    cases hci : isCmd w.cmds i <;> cases hcj : isCmd w.cmds j
    · obtain ⟨ti, hti, hidi⟩ := hleg i x hci hi
      obtain ⟨tj, htj, hidj⟩ := hleg j x hcj hj
      exact h.lwinv.distinct i j ti tj x hti htj hidi hidj
    · obtain ⟨ti, hti, hidi⟩ := hleg i x hci hi
      exact absurd hidi (h.cross j i x ti (hcmd j x hcj hj) hti)
    · obtain ⟨tj, htj, hidj⟩ := hleg j x hcj hj
      exact absurd hidj (h.cross i j x tj (hcmd i x hci hi) htj)
    · exact h.cmddistinct i j x (hcmd i x hci hi) (hcmd j x hcj hj)

/-- handing out an id to the other API keeps the legacy part consistent -/
theorem winv_bump (w : LWorld) (h : WInv w) (c : Nat) (hc : w.counter ≤ c) : WInv { w with counter := c } := by
  constructor <;> dsimp only
  · exact h.nodup
  · intro x hx; have := h.small x hx; omega
  · intro j t id ht hid; have := h.idlt j t id ht hid; omega
  · exact h.sync
  · exact h.wf
  · exact h.distinct

theorem minv_congr (w : MWorld) (h : MInv w) (cmds' : List (Option CSlot))
    (hc : ∀ j, cid cmds' j = cid w.cmds j ∧ isCmd cmds' j = isCmd w.cmds j) (hl : cmds'.length = w.cmds.length) :
    MInv { w with cmds := cmds' } := by
  constructor <;> dsimp only
  · exact h.lwinv
  · rw [hl]; exact h.len
  · intro j x hx; rw [(hc j).1] at hx; exact h.cmdlt j x hx
  · intro i j x hi hj; rw [(hc i).1] at hi; rw [(hc j).1] at hj; exact h.cmddistinct i j x hi hj
  · intro i j x t hi ht; rw [(hc i).1] at hi; exact h.cross i j x t hi ht
  · intro j t hj ht; rw [(hc j).2] at hj; exact h.unused j t hj ht

theorem cid_set (cmds : List (Option CSlot)) (i : Nat) (slot : CSlot) (hi : i < cmds.length) (j : Nat) :
    cid (cmds.set i (some slot)) j = if j = i then slot.timer.map (·.id) else cid cmds j := by
  unfold cid
  by_cases hji : j = i
  · subst hji; rw [List.getElem?_set_self hi]; simp
  · rw [List.getElem?_set_ne (Ne.symm hji)]; simp [hji]

theorem isCmd_set (cmds : List (Option CSlot)) (i : Nat) (slot : CSlot) (hi : i < cmds.length)
    (hc : isCmd cmds i = true) (j : Nat) : isCmd (cmds.set i (some slot)) j = isCmd cmds j := by
  unfold isCmd at hc ⊢
  by_cases hji : j = i
  · subst hji; rw [List.getElem?_set_self hi]; simp only []; split at hc <;> simp_all
  · rw [List.getElem?_set_ne (Ne.symm hji)]

theorem minv_start (w : MWorld) (h : MInv w) (i : Nat) (slot : CSlot) (t : Timer)
    (hs : w.cmds[i]? = some (some slot)) (hid : t.id = w.lw.counter) :
    MInv { lw := { w.lw with counter := w.lw.counter + 1 },
           cmds := w.cmds.set i (some { slot with timer := some t }) } := by
  have hil := (List.getElem?_eq_some_iff.mp hs).1
  have hcid : ∀ j, cid (w.cmds.set i (some { slot with timer := some t })) j =
      if j = i then some w.lw.counter else cid w.cmds j := by
    intro j; rw [cid_set _ _ _ hil, ← hid]; rfl
  constructor <;> dsimp only
  · exact winv_bump w.lw h.lwinv _ (Nat.le_succ _)
  · rw [List.length_set]; exact h.len
  · intro j x hx
    rw [hcid] at hx
    split at hx
    · cases hx; exact Nat.lt_succ_self _
    · exact Nat.lt_succ_of_lt (h.cmdlt j x hx)
  · intro j1 j2 x h1 h2
    rw [hcid] at h1 h2
    split at h1 <;> split at h2
    · omega
    · cases h1; exact absurd (h.cmdlt j2 _ h2) (Nat.lt_irrefl _)
    · cases h2; exact absurd (h.cmdlt j1 _ h1) (Nat.lt_irrefl _)
    · exact h.cmddistinct j1 j2 x h1 h2
  · intro j1 j2 x u h1 hu
    rw [hcid] at h1
    split at h1
    · cases h1
      exact fun hx => Nat.lt_irrefl _ (h.lwinv.idlt j2 u _ hu hx)
    · exact h.cross j1 j2 x u h1 hu
  · intro j u hj hu
    rw [isCmd_set _ _ _ hil (by simp [isCmd, hs])] at hj
    exact h.unused j u hj hu

theorem minv_lstep (w : MWorld) (h : MInv w) (a : LAct) (i : Nat) (hi : isCmd w.cmds i = false)
    (hb : w.lw.counter + 1 < USIZE) : MInv { w with lw := (lstep w.lw a i).1 } := by
  obtain ⟨hw, hc, _⟩ := winv_step w.lw a i h.lwinv hb
  constructor <;> dsimp only
  · exact hw
  · rw [lstep_length]; exact h.len
  · intro j x hx; exact Nat.lt_of_lt_of_le (h.cmdlt j x hx) hc
  · exact h.cmddistinct
  · -- an id the step hands out is the old counter, above every command's id
    intro j1 j2 x u h1 hu hx
    cases ht : w.lw.timers[i]? with
    | none => rw [lstep_none _ _ _ ht] at hu; exact h.cross j1 j2 x u h1 hu hx
    | some t =>
      rw [lstep_some _ _ _ t ht hb] at hu
      rcases getElem?_set_some hu with ⟨rfl, rfl⟩ | ⟨_, hu'⟩
      · rcases lstep1_ids t (w.lw.cleared.contains (t.id.getD w.lw.counter)) w.lw.counter a
          (h.lwinv.idlt j2 t · ht) with ⟨hn, _⟩ | ⟨hs, _⟩
        · rw [hn] at hx; cases hx
        · rw [hs] at hx
          cases htid : t.id with
          | some id => rw [htid] at hx; exact h.cross j1 j2 x t h1 ht (htid.trans hx)
          | none => rw [htid] at hx; cases hx; exact Nat.lt_irrefl _ (h.cmdlt j1 _ h1)
      · exact h.cross j1 j2 x u h1 hu' hx
  · intro j u hj hu
    have hij : i ≠ j := by rintro rfl; rw [hi] at hj; cases hj
    rw [lstep_other _ _ _ _ hij] at hu
    exact h.unused j u hj hu

theorem minv_step (w : MWorld) (a : MAct) (i : Nat) (h : MInv w) (hb : w.lw.counter + 1 < 18446744073709551616) :
    MInv (mstep w a i).1 ∧ w.lw.counter ≤ (mstep w a i).1.lw.counter ∧
      (mstep w a i).1.lw.counter ≤ w.lw.counter + 1 := by
  have hrun : ∀ (w' : MWorld) (act : Act) (idle : Res), MInv w' →
      MInv { w' with cmds := (cmdStepAll w'.cmds i act idle).map (·.1) } := fun w' act idle h' =>
    minv_congr w' h' _ (cmdStepAll_cid w'.cmds i act idle) (cmdStepAll_length _ _ _ _)
  unfold mstep
  split
  · rename_i slot hslot
    split
    · split
      · rw [allocId_eq _ hb]
        exact ⟨hrun _ _ _ (minv_start w h i slot _ hslot rfl), Nat.le_succ _, Nat.le_refl _⟩
      · exact ⟨hrun w _ _ h, Nat.le_refl _, Nat.le_succ _⟩
    · exact ⟨hrun w _ _ h, Nat.le_refl _, Nat.le_succ _⟩
  · rename_i hslot
    obtain ⟨_, hc⟩ := winv_step w.lw (toLAct a) i h.lwinv hb
    exact ⟨hrun _ _ _ (minv_lstep w h (toLAct a) i (by simp [isCmd, hslot]) hb), hc⟩
  · exact ⟨hrun w _ _ h, Nat.le_refl _, Nat.le_succ _⟩

theorem minv_init (counter : Nat) (kinds : List (Bool × Kind)) : MInv (mkMWorld counter kinds) := by
  have hcid : ∀ j, cid (mkMWorld counter kinds).cmds j = none := by
    intro j
    simp only [cid, mkMWorld, List.getElem?_map]
    cases kinds[j]? with
    | none => rfl
    | some lk => cases h : lk.1 <;> simp [h]
  constructor
  · exact winv_init counter _
  · simp [mkMWorld, mkLWorld]
  · intro j x hx; rw [hcid] at hx; cases hx
  · intro i j x hx; rw [hcid] at hx; cases hx
  · intro i j x t hx; rw [hcid] at hx; cases hx
  · intro j t _ ht
    simp only [mkMWorld, mkLWorld, List.getElem?_map] at ht
    cases hk : kinds[j]? with
    | none => rw [hk] at ht; cases ht
    | some lk => rw [hk] at ht; simp only [Option.map_some] at ht; rw [← Option.some.inj ht]

theorem minv_mfinal (steps : List (MAct × Nat)) : ∀ w : MWorld, MInv w →
    w.lw.counter + steps.length < 18446744073709551616 → MInv (mfinal w steps) := by
  induction steps with
  | nil => intro w h _; exact h
  | cons s rest ih =>
    intro w h hb
    obtain ⟨a, i⟩ := s
    simp only [List.length_cons] at hb
    have hs := minv_step w a i h (by omega)
    exact ih _ hs.1 (by omega)

end Lemmas.Timer
