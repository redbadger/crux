/-
The specification's monitor simulates the model of one timer: along every run (every list of (action, ran?) pairs)
from a well-formed state the monitor accepts, and every single clause holds at every entry.
-/
import CruxVerif.Lemmas.Timer.Step
namespace Lemmas.Timer
open M.Timer S.Timer

theorem runTask_same (u : Timer) :
    (runTask u).1.kind = u.kind ∧ (runTask u).1.id = u.id ∧ (runTask u).1.handle = u.handle := by
  unfold runTask; repeat' split
  all_goals exact ⟨rfl, rfl, rfl⟩

theorem runTask_id (u : Timer) : (runTask u).1.id = u.id := (runTask_same u).2.1

theorem settle_fst (u : Timer) (res : Res) (ran : Bool) :
    (settle u res ran).1 = if ran && u.woken then (runTask { u with woken := false }).1 else u := by
  unfold settle
  split
  · dsimp only
    split <;> rfl
  · rfl

theorem step_kind_id (t : Timer) (a : Act) (ran : Bool) :
    (step t a ran).1.kind = t.kind ∧ (step t a ran).1.id = t.id := by
  by_cases h : t.ctl = .panicked
  · simp [step, h]
  · have hr := runTask_same { (act t a).1 with woken := false }
    rw [step_eq_settle t a ran h, settle_fst]
    split
    · exact ⟨hr.1.trans (act_kind_id t a).1, hr.2.1.trans (act_kind_id t a).2⟩
    · exact act_kind_id t a

theorem step_kind (t : Timer) (a : Act) (ran : Bool) : (step t a ran).1.kind = t.kind := (step_kind_id t a ran).1

theorem step_id (t : Timer) (a : Act) (ran : Bool) : (step t a ran).1.id = t.id := (step_kind_id t a ran).2

/-- the monitor's history `m` matches the model state `t` -/
def R (m : Mon) (t : Timer) : Prop :=
  (m.poisoned = true ∧ poisonedSt t = true) ∨ (m = abs t ∧ poisonedSt t = false)

theorem mid_poisoned (m : Mon) (k : Kind) (id : Nat) (a : Act) (res : Res) (h : m.poisoned = true) :
    (m.mid k id a res).poisoned = true := by
  unfold Mon.mid
  split <;> simp [h]

theorem after_poisoned (md : Mon) (k : Kind) (id : Nat) (e : Entry) (h : md.poisoned = true) :
    md.after k id e = md := by
  simp [Mon.after, h]

theorem abs_not_poisoned (t : Timer) : (abs t).poisoned = false := rfl

theorem sim_step (m : Mon) (t : Timer) (a : Act) (ran : Bool) (hi : inv t = true) (hR : R m t) :
    let r := step t a ran
    let e := entryOfOut a ran r.2
    let md := m.mid t.kind t.id a r.2.res
    inv r.1 = true ∧ R (md.after t.kind t.id e) r.1 ∧
      (md.poisoned = true ∨ allClauses t.kind t.id m md e = true) := by
  intro r e md
  rcases hR with ⟨hm, hp⟩ | ⟨hm, hp⟩
  · have hc := closed t a ran hi hp
    have hmd : md.poisoned = true := mid_poisoned _ _ _ _ _ hm
    exact ⟨hc.1, Or.inl ⟨by rw [after_poisoned _ _ _ _ hmd]; exact hmd, hc.2⟩, Or.inl hmd⟩
  · subst hm
    obtain ⟨h1, h2, h3⟩ := central t a ran hi hp
    cases hmd : md.poisoned with
    | true => exact ⟨h1, Or.inl ⟨by rw [after_poisoned _ _ _ _ hmd]; exact hmd, h2.symm.trans hmd⟩, Or.inl rfl⟩
    | false => exact ⟨h1, Or.inr ⟨(h3 hmd).2, h2.symm.trans hmd⟩, Or.inr (h3 hmd).1⟩

def entries (t : Timer) (acts : List (Act × Bool)) : List Entry :=
  (trace t acts).map fun x => entryOfOut x.1 x.2.1 x.2.2

theorem entries_cons (t : Timer) (a : Act) (ran : Bool) (rest : List (Act × Bool)) :
    entries t ((a, ran) :: rest) =
      entryOfOut a ran (step t a ran).2 :: entries (step t a ran).1 rest := by
  simp [entries, trace]

theorem check_eq_none_iff (k : Kind) (id : Nat) (m : Mon) (e : Entry) :
    check k id m e = none ↔
      (m.mid k id e.act e.res).poisoned = true ∨ allClauses k id m (m.mid k id e.act e.res) e = true := by
  unfold check allClauses
  cases h : (m.mid k id e.act e.res).poisoned <;> simp [h]

theorem verdict1_entries (acts : List (Act × Bool)) : ∀ (m : Mon) (t : Timer), inv t = true → R m t →
    verdict1 t.kind t.id m (entries t acts) = none := by
  induction acts with
  | nil => intro m t _ _; rfl
  | cons x rest ih =>
    intro m t hi hR
    obtain ⟨a, ran⟩ := x
    obtain ⟨h1, h2, h3⟩ := sim_step m t a ran hi hR
    have hn := ih _ _ h1 h2
    rw [step_kind, step_id] at hn
    rw [entries_cons, verdict1, (check_eq_none_iff _ _ _ _).mpr h3]
    exact hn

theorem holdsAlong_of_verdict1 (k : Kind) (id : Nat) (c : String × (Mon → Mon → Entry → Bool))
    (hc : c ∈ clauses k id) : ∀ (es : List Entry) (m : Mon),
    verdict1 k id m es = none → holdsAlong c.2 k id m es = true := by
  intro es
  induction es with
  | nil => intro _ _; rfl
  | cons e rest ih =>
    intro m h
    unfold verdict1 at h
    split at h
    · cases h
    · rename_i hch
      rw [check_eq_none_iff] at hch
      simp only [holdsAlong, Bool.and_eq_true, Bool.or_eq_true]
      exact ⟨hch.imp_right fun ha => List.all_eq_true.mp ha c hc, ih _ h⟩

theorem holdsAlong_entries (key : String) (K : Mon → Mon → Entry → Bool) (acts : List (Act × Bool))
    (m : Mon) (t : Timer) (hK : (key, K) ∈ clauses t.kind t.id) (hi : inv t = true) (hR : R m t) :
    holdsAlong K t.kind t.id m (entries t acts) = true :=
  holdsAlong_of_verdict1 _ _ _ hK _ m (verdict1_entries acts m t hi hR)

theorem inv_init (k : Kind) (id : Nat) : inv { kind := k, id := id } = true := rfl

theorem R_init (k : Kind) (id : Nat) : R {} { kind := k, id := id } := Or.inr ⟨rfl, rfl⟩

end Lemmas.Timer
