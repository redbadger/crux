/-
Helper definitions for the proofs of C18 (command API): the well-formedness invariant of reachable timer
states, the states in which a wrong response has been (or is about to be) seen, the abstraction from a model
state to the history summary `S.Timer.Mon` of the specification, and the statement `Central` of the one-step simulation
(proved in `Lemmas/Timer/Step.lean`).
-/
import CruxVerif.Spec.Timer
namespace Lemmas.Timer
open M.Timer S.Timer

/-- well-formedness of a timer state: holds initially and is preserved by every step -/
def inv (t : Timer) : Bool :=
  (t.req.answer.isNone || t.req.shell != .absent) &&
  (t.clr.answer.isNone || t.clr.shell != .absent) &&
  (match t.ctl with
  | .notStarted => t.woken && t.req == {} && t.clr == {}
  | .waiting => t.req.shell != .absent && t.clr == {} &&
      -- a task that is not in the ready queue has nothing to do (and somebody still holds its waker)
      (t.woken || (t.req.answer.isNone && t.handle != .cleared && (t.req.shell != .gone || t.handle == .alive)))
  | .clearPending => t.handle == .cleared && t.req.shell != .absent && t.clr.shell != .absent &&
      (t.woken || (t.clr.answer.isNone && t.clr.shell == .held))
  | .completed => t.req.answer == some t.good && t.req.shell != .absent && t.clr == {}
  | .cleared => t.handle == .cleared &&
      ((t.req == {} && t.clr == {}) ||
       (t.req.shell != .absent && t.clr.shell != .absent && t.clr.answer == some (.cleared t.id)))
  | .evicted => (t.handle == .dropped && t.req.shell == .gone && t.req.answer.isNone && t.clr == {}) ||
      (t.handle == .cleared && t.req.shell != .absent && t.clr.shell == .gone && t.clr.answer.isNone)
  | .panicked => true)

/-- a wrong response sits where the task will look at it, or the task already did -/
def poisonedSt (t : Timer) : Bool :=
  match t.ctl with
  | .panicked => true
  | .waiting => match t.req.answer with | some v => v != t.good | none => false
  | .clearPending => match t.clr.answer with | some v => v != .cleared t.id | none => false
  | _ => false

/-- the history summary of the specification, read off a (non-poisoned) model state -/
def abs (t : Timer) : Mon :=
  { requested := t.req.shell != .absent
    appCleared := t.handle == .cleared
    clearedEarly := t.handle == .cleared && t.req.shell == .absent
    answered := t.req.answer == some t.good
    answeredAny := t.req.answer.isSome
    clearSent := t.clr.shell != .absent
    outcome := t.ctl == .completed || t.ctl == .cleared
    answerWaiting := t.ctl == .waiting && t.req.answer == some t.good
    clearAnswerWaiting := t.ctl == .clearPending && t.clr.answer == some (.cleared t.id)
    poisoned := false }

def entryOfOut (a : Act) (ran : Bool) (o : Out) : Entry :=
  { act := a, ran := ran, res := o.res, effects := o.effects, events := o.events }

def allClauses (k : Kind) (id : Nat) (m md : Mon) (e : Entry) : Bool :=
  (clauses k id).all fun c => c.2 m md e

theorem ctl_beq (a b : Ctl) : (a == b) = decide (a = b) := by cases a <;> cases b <;> rfl
theorem shell_beq (a b : Shell) : (a == b) = decide (a = b) := by cases a <;> cases b <;> rfl
theorem handle_beq (a b : HandleSt) : (a == b) = decide (a = b) := by cases a <;> cases b <;> rfl
theorem res_beq (a b : Res) : (a == b) = decide (a = b) := by cases a <;> cases b <;> rfl

theorem good_eq (t : Timer) : t.good = goodResp t.kind t.id := by
  cases h : t.kind <;> simp [Timer.good, goodResp, h]

/-- the one-step simulation, from a well-formed, non-poisoned state `t` -/
def Central (t : Timer) (a : Act) (ran : Bool) : Prop :=
  let r := step t a ran
  let e := entryOfOut a ran r.2
  let md := (abs t).mid t.kind t.id a r.2.res
  inv r.1 = true ∧ md.poisoned = poisonedSt r.1 ∧
  (md.poisoned = false → allClauses t.kind t.id (abs t) md e = true ∧ md.after t.kind t.id e = abs r.1)

macro "bashv" h:ident : tactic => `(tactic|
  simp (config := {decide := true}) [Central, step, act, runTask, Req.resolve, Req.drop, Req.open, Timer.live,
      Timer.terminal, inv, poisonedSt, abs, Mon.mid, Mon.after, entryOfOut, allClauses, clauses, good_eq, bne, ctl_beq, shell_beq, handle_beq, res_beq, $h:ident,
      noPanic, ownIds, quietUnlessRan, oneOutcome, completedOnlyIfAnswered, clearedOnlyIfCleared, earlyClearSilent,
      clearOnlyIfAppCleared, oneClear, requestSentWhenDue, clearSentWhenDue, answerWins, clearedReported, lateIgnored])

macro "absurd_inv" h:ident : tactic =>
  `(tactic| (exfalso; revert $h:ident; simp (config := {decide := true}) [inv]; done))

end Lemmas.Timer
