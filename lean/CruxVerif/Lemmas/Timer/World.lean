/-
Several timers (command API, both hosts): the entries the specification attributes to timer `j` in a joint run are
the entries of a run of timer `j` alone; hence the monitor accepts every joint run.  Also the id allocation.
-/
import CruxVerif.Lemmas.Timer.Sim
namespace Lemmas.Timer
open M.Timer S.Timer

theorem inv_step (t : Timer) (a : Act) (ran : Bool) (hi : inv t = true) : inv (step t a ran).1 = true := by
  cases hp : poisonedSt t with
  | true => exact (closed t a ran hi hp).1
  | false => exact (central t a ran hi hp).1

/-- what a case step means to timer `j`, along its own evolution -/
def actsFor (host : Host) (j : Nat) : Timer → List (CAct × Nat) → List (Act × Bool)
  | _, [] => []
  | t, (c, i) :: rest =>
    let e := entry host t.launched (j == i) c
    e :: actsFor host j (step t e.1 e.2).1 rest

theorem entryOf_eq_entry (host : Host) (launched addressed : Bool) (c : CAct) :
    entryOf host launched addressed c = entry host launched addressed c := by
  cases host <;> cases launched <;> cases addressed <;> cases c <;> rfl

theorem act_ctl (t : Timer) (a : Act) : (act t a).1.ctl = t.ctl := by
  cases a <;> simp only [act] <;> (try split) <;> rfl

theorem act_woken (t : Timer) (a : Act) (h : t.woken = true) : (act t a).1.woken = true := by
  cases a <;> simp only [act] <;> (try split) <;> simp [h]

theorem runTask_ctl (u : Timer) : (runTask u).1.ctl ≠ .notStarted := by
  unfold runTask
  repeat' split
  all_goals simp_all

/-- a command is launched by the first step that runs it: an unstarted timer is in the ready queue -/
theorem step_launched (t : Timer) (a : Act) (ran : Bool) (hi : inv t = true) :
    (step t a ran).1.launched = (t.launched || ran) := by
  by_cases hp : t.ctl = .panicked
  · simp [step, hp, Timer.launched]
  · rw [step_eq_settle t a ran hp, settle_fst]
    have hrun := runTask_ctl { (act t a).1 with woken := false }
    cases ran
    · simp [Timer.launched, act_ctl]
    · by_cases hc : t.ctl = .notStarted
      · have hw : t.woken = true := by simp only [inv, hc, Bool.and_eq_true] at hi; exact hi.2.1.1
        simpa [Timer.launched, act_woken t a hw] using hrun
      · split
        · simpa [Timer.launched] using hrun
        · simp [Timer.launched, act_ctl, hc]

theorem launched_step (host : Host) (t : Timer) (addressed : Bool) (c : CAct) (hi : inv t = true) :
    (step t (entry host t.launched addressed c).1 (entry host t.launched addressed c).2).1.launched
      = (t.launched || (addressed && c == .poll)) := by
  rw [step_launched _ _ _ hi]
  cases host <;> cases t.launched <;> cases addressed <;> cases c <;> rfl

theorem wrun_length (host : Host) (steps : List (CAct × Nat)) : ∀ ts, (wrun host ts steps).length = steps.length := by
  induction steps with
  | nil => intro ts; rfl
  | cons s rest ih => intro ts; obtain ⟨c, i⟩ := s; simp [wrun, ih]

theorem wstep_length (host : Host) (ts : List Timer) (c : CAct) (i : Nat) :
    (wstep host ts c i).1.length = ts.length ∧ (wstep host ts c i).2.length = ts.length := by
  simp [wstep, stepAll]

theorem wrun_all_length (host : Host) (steps : List (CAct × Nat)) :
    ∀ ts, ∀ outs ∈ wrun host ts steps, outs.length = ts.length := by
  induction steps with
  | nil => intro ts outs h; simp [wrun] at h
  | cons s rest ih =>
    intro ts outs h
    obtain ⟨c, i⟩ := s
    simp only [wrun, List.mem_cons] at h
    rcases h with h | h
    · rw [h]; exact (wstep_length host ts c i).2
    · have := ih _ outs h
      rw [this]; exact (wstep_length host ts c i).1

theorem wstep_get (host : Host) (ts : List Timer) (c : CAct) (i j : Nat) (t : Timer) (h : ts[j]? = some t) :
    (wstep host ts c i).1[j]? = some (step t (entry host t.launched (j == i) c).1 (entry host t.launched (j == i) c).2).1 ∧
    (wstep host ts c i).2.getD j {} = (step t (entry host t.launched (j == i) c).1 (entry host t.launched (j == i) c).2).2 := by
  simp [wstep, stepAll, List.getElem?_map, List.getElem?_mapIdx, h, List.getD_eq_getElem?_getD]

/-- `Props.C18.timers_independent`, in the form the soundness proof uses -/
theorem project_wrun (host : Host) (j : Nat) (steps : List (CAct × Nat)) :
    ∀ (ts : List Timer) (t : Timer), ts[j]? = some t → inv t = true →
      project host j t.launched (steps.zip (wrun host ts steps)) = entries t (actsFor host j t steps) := by
  induction steps with
  | nil => intro ts t _ _; simp [wrun, project, entries, actsFor, trace]
  | cons s rest ih =>
    intro ts t ht hi
    obtain ⟨c, i⟩ := s
    obtain ⟨h1, h2⟩ := wstep_get host ts c i j t ht
    have hij : (i == j) = (j == i) := BEq.comm
    simp only [wrun, List.zip_cons_cons, project, actsFor]
    rw [hij, entryOf_eq_entry, h2]
    congr 1
    have := ih (wstep host ts c i).1 _ h1 (inv_step _ _ _ hi)
    rw [launched_step host t (j == i) c hi] at this
    exact this

theorem verdict_wrun (host : Host) (ts : List Timer) (steps : List (CAct × Nat))
    (hfresh : ∀ t ∈ ts, ∃ k id, t = { kind := k, id := id }) :
    verdict host (ts.map fun t => (t.kind, t.id)) steps true (wrun host ts steps) = none := by
  unfold verdict
  have hl := wrun_length host steps ts
  have hall : (wrun host ts steps).all (fun x => x.length == (ts.map fun t => (t.kind, t.id)).length) = true := by
    rw [List.all_eq_true]
    intro outs h
    simp [wrun_all_length host steps ts outs h]
  simp only [Bool.not_true, Bool.false_eq_true, if_false, hl, bne_self_eq_false, hall, Bool.or_self]
  rw [List.findSome?_eq_none_iff]
  intro j _
  rw [List.getElem?_map]
  cases ht : ts[j]? with
  | none => rfl
  | some t =>
    simp only [Option.map_some]
    obtain ⟨k, id, rfl⟩ := hfresh t (List.mem_of_getElem? ht)
    have hp : project host j false _ = _ := project_wrun host j steps ts _ ht (inv_init k id)
    rw [hp]
    exact verdict1_entries _ {} _ (inv_init k id) (R_init k id)

theorem allocIds_eq (n : Nat) : ∀ c, allocIds c n = (List.range n).map fun i => (c + i) % 18446744073709551616 := by
  induction n with
  | zero => intro c; rfl
  | succ n ih =>
    intro c
    rw [allocIds, ih, List.range_succ_eq_map]
    simp only [allocId, List.map_cons, List.map_map, Nat.add_zero]
    congr 1
    apply List.map_congr_left
    intro i _
    simp only [Function.comp]
    omega

theorem allocSeq_ids (apis : List Bool) : ∀ c, (allocSeq c apis).map (·.2) = allocIds c apis.length := by
  induction apis with
  | nil => intro c; rfl
  | cons a rest ih => intro c; simp [allocSeq, allocIds, ih]

theorem allocIds_nodup (c n : Nat) (h : n ≤ 18446744073709551616) : (allocIds c n).Nodup := by
  rw [allocIds_eq, List.Nodup, List.pairwise_map]
  have hr : List.Pairwise (fun a b => a < b ∧ b < n) (List.range n) := by
    rw [List.pairwise_iff_getElem]
    intro i j hi hj hij
    simp only [List.getElem_range]
    simp only [List.length_range] at hj
    exact ⟨hij, hj⟩
  exact hr.imp (by intro a b ⟨h1, h2⟩; omega)

theorem allocIds_increasing (n : Nat) : ∀ c, c % 18446744073709551616 + n ≤ 18446744073709551616 →
    increasing (allocIds c n) = true := by
  induction n with
  | zero => intro c _; rfl
  | succ n ih =>
    intro c h
    cases n with
    | zero => rfl
    | succ n =>
      have := ih ((c + 1) % 18446744073709551616) (by omega)
      simp only [allocIds, allocId, increasing, Bool.and_eq_true, decide_eq_true_eq] at this ⊢
      refine ⟨by omega, this⟩

theorem actsFor_cmd (j : Nat) (steps : List (CAct × Nat)) : ∀ t : Timer,
    actsFor .cmd j t steps = steps.map fun s =>
      if j == s.2 then (match s.1 with | .poll => (Act.tick, true) | .act a => (a, false)) else (Act.tick, false) := by
  induction steps with
  | nil => intro t; rfl
  | cons s rest ih =>
    intro t
    obtain ⟨c, i⟩ := s
    simp only [actsFor, List.map_cons, ih]
    congr 1
    cases h : (j == i) <;> cases c <;> simp [entry]

theorem step_tick_noop (t : Timer) : (step t .tick false).1 = t := by
  unfold step
  split
  · rfl
  · simp [act]

end Lemmas.Timer
