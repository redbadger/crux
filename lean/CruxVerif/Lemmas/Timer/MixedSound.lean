/-
Both APIs in one app (host `mixed`): what the specification attributes to one position of a joint run is a run
of that timer alone (a command-API timer: of the fresh timer with the id it will get, not run before its start
action; a legacy timer: its own steps, with the shared set in sync), hence the monitors accept every joint run.
-/
import CruxVerif.Lemmas.Timer.Mixed
namespace Lemmas.Timer
open M.Timer S.Timer

/-- what the steps of a mixed case mean to the command-API timer at position `j` (cf. `S.Timer.mprojectCmd`) -/
def mactsFor (k : Kind) (id : Nat) (j : Nat) : Bool → List (MAct × Nat) → List (Act × Bool)
  | _, [] => []
  | created, (a, i) :: rest =>
    if created then ((if i == j then toAct { kind := k, id := id } a else .tick), true) :: mactsFor k id j true rest
    else if i == j && (a == .start || a == .startClear) then
      ((if a == .startClear then .clear else .tick), true) :: mactsFor k id j true rest
    else (.tick, false) :: mactsFor k id j false rest

theorem toAct_congr (t u : Timer) (hk : t.kind = u.kind) (hid : t.id = u.id) (a : MAct) : toAct t a = toAct u a := by
  cases a <;> simp [toAct, hk, hid]

theorem cmdStepAll_other (cmds cmds' : List (Option CSlot)) (i j : Nat) (a a' : Act) (idle idle' : Res) (hne : i ≠ j)
    (h : cmds[j]? = cmds'[j]?) :
    ((cmdStepAll cmds i a idle).map (·.1))[j]? = ((cmdStepAll cmds' i a' idle').map (·.1))[j]? ∧
    ((cmdStepAll cmds i a idle).map (·.2)).getD j {} = ((cmdStepAll cmds' i a' idle').map (·.2)).getD j {} := by
  have hji : (j == i) = false := by simpa using Ne.symm hne
  rw [cmdStepAll_get, cmdStepAll_get, cmdStepAll_out, cmdStepAll_out, h, hji]
  exact ⟨rfl, rfl⟩

theorem mstep_other (w : MWorld) (a : MAct) (i j : Nat) (hne : i ≠ j) :
    (mstep w a i).1.lw.timers[j]? = w.lw.timers[j]? ∧
    (mstep w a i).1.cmds[j]? = ((cmdStepAll w.cmds i .tick).map (·.1))[j]? ∧
    (mstep w a i).2.getD j {} = ((cmdStepAll w.cmds i .tick).map (·.2)).getD j {} := by
  unfold mstep
  split
  · split
    · split
      · exact ⟨rfl, cmdStepAll_other _ _ i j _ _ _ _ hne (List.getElem?_set_ne hne)⟩
      · exact ⟨rfl, cmdStepAll_other _ _ i j _ _ _ _ hne rfl⟩
    · exact ⟨rfl, cmdStepAll_other _ _ i j _ _ _ _ hne rfl⟩
  · refine ⟨lstep_other _ _ _ _ hne, rfl, ?_⟩
    dsimp only
    rw [List.getD_eq_getElem?_getD, List.getElem?_set_ne hne, ← List.getD_eq_getElem?_getD]
  · exact ⟨rfl, rfl, rfl⟩

theorem mstep_created (w : MWorld) (a : MAct) (i j : Nat) (slot : CSlot) (t : Timer)
    (hs : w.cmds[j]? = some (some slot)) (ht : slot.timer = some t) :
    (mstep w a i).1.cmds[j]? =
        some (some { slot with timer := some (step t (if i == j then toAct t a else .tick) true).1 }) ∧
    (mstep w a i).2.getD j {} = (step t (if i == j then toAct t a else .tick) true).2 := by
  by_cases hij : i = j
  · subst hij
    simp only [mstep, hs, ht]
    rw [cmdStepAll_get, cmdStepAll_out, hs]
    simp [ht]
  · obtain ⟨_, h1, h2⟩ := mstep_other w a i j hij
    rw [h1, h2, cmdStepAll_get, cmdStepAll_out, hs]
    simp [ht, hij, Ne.symm hij]

theorem mproject_created (k : Kind) (id : Nat) (j : Nat) (steps : List (MAct × Nat)) :
    ∀ (w : MWorld) (slot : CSlot) (t : Timer), w.cmds[j]? = some (some slot) → slot.timer = some t →
      t.kind = k → t.id = id →
      mprojectCmd k id j true (steps.zip (mrun w steps)) = entries t (mactsFor k id j true steps) := by
  induction steps with
  | nil => intro w slot t _ _ _ _; simp [mrun, mprojectCmd, mactsFor, entries, trace]
  | cons s rest ih =>
    intro w slot t hs ht hk hid
    obtain ⟨a, i⟩ := s
    obtain ⟨h1, h2⟩ := mstep_created w a i j slot t hs ht
    have hta : toAct { kind := k, id := id } a = toAct t a := toAct_congr _ _ hk.symm hid.symm a
    simp only [mrun, List.zip_cons_cons, mprojectCmd, mactsFor, if_true, entries_cons]
    rw [h2, hta]
    congr 1
    exact ih _ _ _ h1 rfl (by rw [step_kind]; exact hk) (by rw [step_id]; exact hid)

/-- the first step of a command created by a start action -/
def newTimer (k : Kind) (counter : Nat) (a : MAct) : Timer × Out :=
  step { kind := k, id := (allocId counter).1 } (if a = .startClear then .clear else .tick) true

theorem mstep_uncreated (w : MWorld) (a : MAct) (i j : Nat) (slot : CSlot)
    (hs : w.cmds[j]? = some (some slot)) (ht : slot.timer = none) :
    ((i == j && (a == .start || a == .startClear)) = true →
      (mstep w a i).1.cmds[j]? = some (some { slot with timer := some (newTimer slot.kind w.lw.counter a).1 }) ∧
      (mstep w a i).2.getD j {} = (newTimer slot.kind w.lw.counter a).2) ∧
    ((i == j && (a == .start || a == .startClear)) = false →
      (mstep w a i).1.cmds[j]? = some (some slot) ∧
      ((mstep w a i).2.getD j {}).effects = [] ∧ ((mstep w a i).2.getD j {}).events = []) := by
  have hslot : ({ slot with timer := none } : CSlot) = slot := by cases slot; simp_all
  constructor
  · intro h
    simp only [Bool.and_eq_true, Bool.or_eq_true, beq_iff_eq] at h
    obtain ⟨rfl, ha⟩ := h
    simp only [mstep, hs, ht, ha, if_true]
    rw [cmdStepAll_get, cmdStepAll_out, List.getElem?_set_self (List.getElem?_eq_some_iff.mp hs).1]
    simp [newTimer]
  · intro hn
    by_cases hij : i = j
    · subst hij
      have ha : ¬ (a = .start ∨ a = .startClear) := by simpa using hn
      simp only [mstep, hs, ht, ha, if_false]
      rw [cmdStepAll_get, cmdStepAll_out, hs]
      simp [ht, hslot]
    · obtain ⟨_, h1, h2⟩ := mstep_other w a i j hij
      rw [h1, h2, cmdStepAll_get, cmdStepAll_out, hs]
      simp [ht, hslot, Ne.symm hij]

theorem mfinal_cid (j x : Nat) (steps : List (MAct × Nat)) : ∀ w : MWorld, cid w.cmds j = some x →
    cid (mfinal w steps).cmds j = some x := by
  induction steps with
  | nil => intro w h; exact h
  | cons s rest ih =>
    intro w h
    obtain ⟨a, i⟩ := s
    simp only [mfinal]
    apply ih
    unfold cid at h
    split at h
    · rename_i slot hs
      cases ht : slot.timer with
      | none => rw [ht] at h; cases h
      | some t =>
        rw [ht] at h
        have := (mstep_created w a i j slot t hs ht).1
        unfold cid
        rw [this]
        simp only [Option.map_some, step_id]
        exact h
    · cases h

theorem mproject_uncreated (k : Kind) (idf : Nat) (j : Nat) (steps : List (MAct × Nat)) :
    ∀ (w : MWorld) (slot : CSlot), w.cmds[j]? = some (some slot) → slot.timer = none → slot.kind = k →
      (∀ x, cid (mfinal w steps).cmds j = some x → x = idf) →
      mprojectCmd k idf j false (steps.zip (mrun w steps)) =
        entries { kind := k, id := idf } (mactsFor k idf j false steps) := by
  induction steps with
  | nil => intro w slot _ _ _ _; simp [mrun, mprojectCmd, mactsFor, entries, trace]
  | cons s rest ih =>
    intro w slot hs ht hk hfin
    obtain ⟨a, i⟩ := s
    have hu := mstep_uncreated w a i j slot hs ht
    have hfin : ∀ x, cid (mfinal (mstep w a i).1 rest).cmds j = some x → x = idf := hfin
    simp only [mrun, List.zip_cons_cons, mprojectCmd, mactsFor, Bool.false_eq_true, if_false]
    cases hc : (i == j && (a == MAct.start || a == MAct.startClear))
    · -- not its start action: nobody runs the timer it will be
      obtain ⟨h1, h2, h3⟩ := hu.2 hc
      have hstep : step ({ kind := k, id := idf } : Timer) .tick false =
          ({ kind := k, id := idf }, { res := .unit, done := false }) := rfl
      simp only [Bool.false_eq_true, if_false, entries_cons]
      rw [hstep, h2, h3]
      congr 1
      exact ih _ slot h1 ht hk hfin
    · obtain ⟨h1, h2⟩ := hu.1 hc
      have hid : (allocId w.lw.counter).1 = idf :=
        hfin _ (mfinal_cid j _ rest _ (by unfold cid; rw [h1]; simp [newTimer, step_id]))
      simp only [if_true, entries_cons, beq_iff_eq]
      rw [h2]
      simp only [newTimer, hk, hid] at h1 ⊢
      rw [entryOfOut]
      congr 1
      exact mproject_created k idf j rest _ _ _ h1 rfl (by rw [step_kind]) (by rw [step_id])

theorem mstep_leg (w : MWorld) (a : MAct) (i j : Nat) (hs : w.cmds[j]? = some none) :
    (mstep w a i).1.cmds[j]? = some none ∧
    (i ≠ j → (mstep w a i).1.lw.timers[j]? = w.lw.timers[j]? ∧ (mstep w a i).2.getD j {} = {}) ∧
    (i = j → (mstep w a i).1.lw = (lstep w.lw (toLAct a) j).1 ∧
      (mstep w a i).2.getD j {} = (lstep w.lw (toLAct a) j).2) := by
  by_cases hij : i = j
  · subst hij
    simp only [mstep, hs]
    rw [cmdStepAll_get, hs]
    refine ⟨rfl, fun h => absurd rfl h, fun _ => ⟨trivial, ?_⟩⟩
    rw [List.getD_eq_getElem?_getD,
      List.getElem?_set_self (by simpa [cmdStepAll] using (List.getElem?_eq_some_iff.mp hs).1)]
    rfl
  · obtain ⟨h0, h1, h2⟩ := mstep_other w a i j hij
    rw [h1, h2, cmdStepAll_get, cmdStepAll_out, hs]
    exact ⟨rfl, fun _ => ⟨h0, rfl⟩, fun e => absurd e hij⟩

theorem mstep_len (w : MWorld) (a : MAct) (i : Nat) :
    (mstep w a i).1.cmds.length = w.cmds.length ∧ (mstep w a i).1.lw.timers.length = w.lw.timers.length ∧
    (mstep w a i).2.length = w.cmds.length := by
  unfold mstep
  repeat' split
  all_goals simp only [cmdStepAll, List.length_map, List.length_mapIdx, List.length_set, lstep_length, and_self]

theorem mfinal_lid (j : Nat) (steps : List (MAct × Nat)) : ∀ (w : MWorld) (t : LTimer) (id : Nat),
    w.cmds[j]? = some none → w.lw.timers[j]? = some t → t.id = some id →
    ∀ tf, (mfinal w steps).lw.timers[j]? = some tf → tf.id = some id := by
  induction steps with
  | nil => intro w t id _ ht hid tf htf; rw [mfinal, ht] at htf; cases htf; exact hid
  | cons s rest ih =>
    intro w t id hs ht hid tf htf
    obtain ⟨a, i⟩ := s
    obtain ⟨h1, h2, h3⟩ := mstep_leg w a i j hs
    by_cases hij : i = j
    · obtain ⟨t', ht', hid'⟩ := lstep_id_some w.lw (toLAct a) j j t id ht hid
      exact ih _ t' id h1 (by rw [(h3 hij).1]; exact ht') hid' tf htf
    · exact ih _ t id h1 (by rw [(h2 hij).1]; exact ht) hid tf htf

theorem mquietLeg_mrun (j : Nat) (steps : List (MAct × Nat)) : ∀ w : MWorld, w.cmds[j]? = some none →
    mquietLeg j (steps.zip (mrun w steps)) = true := by
  induction steps with
  | nil => intro w _; rfl
  | cons s rest ih =>
    intro w hs
    obtain ⟨a, i⟩ := s
    obtain ⟨h1, h2, _⟩ := mstep_leg w a i j hs
    simp only [mrun, List.zip_cons_cons, mquietLeg, List.all_cons, Bool.and_eq_true]
    refine ⟨?_, ih _ h1⟩
    by_cases hij : i = j
    · simp [hij]
    · rw [(h2 hij).2]; simp

theorem lverdict1_mrun (j : Nat) (steps : List (MAct × Nat)) : ∀ (w : MWorld) (m : LMon) (t : LTimer),
    MInv w → w.lw.counter + steps.length < 18446744073709551616 → w.cmds[j]? = some none →
    w.lw.timers[j]? = some t → LR m t → ∀ tf, (mfinal w steps).lw.timers[j]? = some tf →
    lverdict1 false t.kind tf.id m (mprojectLeg j (steps.zip (mrun w steps))) = none := by
  induction steps with
  | nil => intro w m t _ _ _ _ _ tf _; rfl
  | cons s rest ih =>
    intro w m t hw hb hs ht hR tf htf
    obtain ⟨a, i⟩ := s
    have htf : (mfinal (mstep w a i).1 rest).lw.timers[j]? = some tf := htf
    simp only [List.length_cons] at hb
    have hstep := minv_step w a i hw (by omega)
    obtain ⟨h1, h2, h3⟩ := mstep_leg w a i j hs
    simp only [mrun, List.zip_cons_cons, mprojectLeg, List.filter_cons]
    by_cases hij : i = j
    · subst hij
      obtain ⟨e1, e2⟩ := h3 rfl
      obtain ⟨t', ht', hsound⟩ := lstep_sound w.lw (toLAct a) i t m tf.id hw.lwinv (by omega) ht hR
      rw [← e1] at ht'
      have hid : t'.id = none ∨ t'.id = tf.id := by
        cases h : t'.id with
        | none => exact Or.inl rfl
        | some id => exact Or.inr (mfinal_lid i rest _ _ id h1 ht' h tf htf).symm
      simp only [beq_self_eq_true, if_true, List.map_cons, Bool.true_or, e2]
      exact hsound _ hid fun m' hR' => ih _ m' t' hstep.1 (by omega) h1 ht' hR' tf htf
    · have hne : (i == j) = false := by simpa using hij
      obtain ⟨g1, g2⟩ := h2 hij
      simp only [hne, Bool.false_or, g2]
      exact ih _ m t hstep.1 (by omega) h1 (by rw [g1]; exact ht) hR tf htf

theorem mfinal_cmd (j : Nat) (steps : List (MAct × Nat)) : ∀ (w : MWorld) (slot : CSlot),
    w.cmds[j]? = some (some slot) → ∃ slot', (mfinal w steps).cmds[j]? = some (some slot') := by
  induction steps with
  | nil => intro w slot h; exact ⟨slot, h⟩
  | cons s rest ih =>
    intro w slot h
    obtain ⟨a, i⟩ := s
    simp only [mfinal]
    cases ht : slot.timer with
    | some t => exact ih _ _ (mstep_created w a i j slot t h ht).1
    | none =>
      cases hst : (i == j && (a == MAct.start || a == MAct.startClear))
      · exact ih _ _ ((mstep_uncreated w a i j slot h ht).2 hst).1
      · exact ih _ _ ((mstep_uncreated w a i j slot h ht).1 hst).1

theorem mfinal_leg (j : Nat) (steps : List (MAct × Nat)) : ∀ (w : MWorld) (t : LTimer),
    w.cmds[j]? = some none → w.lw.timers[j]? = some t →
    (mfinal w steps).cmds[j]? = some none ∧ ∃ tf, (mfinal w steps).lw.timers[j]? = some tf := by
  induction steps with
  | nil => intro w t h ht; exact ⟨h, t, ht⟩
  | cons s rest ih =>
    intro w t h ht
    obtain ⟨a, i⟩ := s
    have hl : j < (mstep w a i).1.lw.timers.length := by
      rw [(mstep_len w a i).2.1]; exact (List.getElem?_eq_some_iff.mp ht).1
    exact ih _ _ (mstep_leg w a i j h).1 (List.getElem?_eq_getElem hl)

theorem mrun_length (steps : List (MAct × Nat)) : ∀ w, (mrun w steps).length = steps.length := by
  induction steps with
  | nil => intro w; rfl
  | cons s rest ih => intro w; obtain ⟨a, i⟩ := s; simp [mrun, ih]

theorem mrun_all_length (steps : List (MAct × Nat)) : ∀ w : MWorld, w.cmds.length = w.lw.timers.length →
    ∀ outs ∈ mrun w steps, outs.length = w.cmds.length := by
  induction steps with
  | nil => intro w _ outs h; simp [mrun] at h
  | cons s rest ih =>
    intro w hlen outs h
    obtain ⟨a, i⟩ := s
    have hl := mstep_len w a i
    simp only [mrun, List.mem_cons] at h
    rcases h with h | h
    · rw [h]; exact hl.2.2
    · have := ih _ (by rw [hl.1, hl.2.1]; exact hlen) outs h
      rw [this, hl.1]

theorem mverdict_mrun (counter : Nat) (kinds : List (Bool × Kind)) (steps : List (MAct × Nat))
    (hb : counter + steps.length < 18446744073709551616) :
    mverdict false kinds ((List.range kinds.length).map (mfinal (mkMWorld counter kinds) steps).idAt) steps true
      (mrun (mkMWorld counter kinds) steps) = none := by
  have hinit := minv_init counter kinds
  have hclen : (mkMWorld counter kinds).cmds.length = kinds.length := by simp [mkMWorld]
  unfold mverdict
  have hl := mrun_length steps (mkMWorld counter kinds)
  have hall : (mrun (mkMWorld counter kinds) steps).all (fun x => x.length == kinds.length) = true := by
    rw [List.all_eq_true]
    intro outs h
    simp [mrun_all_length steps _ hinit.len outs h, hclen]
  simp only [Bool.not_true, Bool.false_eq_true, if_false, hl, bne_self_eq_false, hall, Bool.or_self]
  rw [List.findSome?_eq_none_iff]
  intro j hj
  have hjn : j < kinds.length := List.mem_range.mp hj
  have hids : ((List.range kinds.length).map (mfinal (mkMWorld counter kinds) steps).idAt).getD j none =
      (mfinal (mkMWorld counter kinds) steps).idAt j := by
    simp [List.getD_eq_getElem?_getD, List.getElem?_map, List.getElem?_range hjn]
  rw [List.getElem?_eq_getElem hjn, hids]
  rcases hk : kinds[j] with ⟨leg, k⟩
  cases leg with
  | true =>
    have hs : (mkMWorld counter kinds).cmds[j]? = some none := by
      simp [mkMWorld, List.getElem?_map, List.getElem?_eq_getElem hjn, hk]
    have ht : (mkMWorld counter kinds).lw.timers[j]? = some { kind := k } := by
      simp [mkMWorld, mkLWorld, List.getElem?_map, List.getElem?_eq_getElem hjn, hk]
    obtain ⟨hfs, tf, htf⟩ := mfinal_leg j steps _ _ hs ht
    have hid : (mfinal (mkMWorld counter kinds) steps).idAt j = tf.id := by
      simp [MWorld.idAt, hfs, htf]
    simp only [hid, mquietLeg_mrun j steps _ hs, Bool.not_true, Bool.false_eq_true, if_false]
    exact lverdict1_mrun j steps _ {} _ hinit hb hs ht (LR_fresh k) tf htf
  | false =>
    have hs : (mkMWorld counter kinds).cmds[j]? = some (some { kind := k }) := by
      simp [mkMWorld, List.getElem?_map, List.getElem?_eq_getElem hjn, hk]
    obtain ⟨slot', hs'⟩ := mfinal_cmd j steps _ _ hs
    have hid : (mfinal (mkMWorld counter kinds) steps).idAt j = cid (mfinal (mkMWorld counter kinds) steps).cmds j := by
      simp [MWorld.idAt, cid, hs']
    simp only [hid]
    rw [mproject_uncreated k _ j steps _ _ hs rfl rfl (by intro x hx; rw [hx]; rfl)]
    exact verdict1_entries _ {} _ (inv_init k _) (R_init k _)

end Lemmas.Timer
