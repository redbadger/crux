/-
C13, the process-wide cleared-timer set of the legacy Time capability (crux_time/src/lib.rs, `LIVE_TIMERS`): in every
reachable joint state the set holds only ids of timers whose future is still alive (started, task not completed), each
once — so its size is bounded by the outstanding timers, whatever the length of the history.
-/
import CruxVerif.Lemmas.Timer.LegacyWorld
import CruxVerif.Lemmas.Timer.Mixed
namespace Lemmas.Timer
open M.Timer S.Timer

/-- every remembered id belongs to a timer that is still outstanding -/
def CB (w : LWorld) : Prop :=
  ∀ x ∈ w.cleared, ∃ (j : Nat) (t : LTimer), w.timers[j]? = some t ∧ t.id = some x ∧ t.finished = false

theorem lstep1_insert (t : LTimer) (inSet : Bool) (newId : Nat) (a : LAct)
    (h : (lstep1 t inSet newId a).2.2.1 = .insert) :
    t.id ≠ none ∧ (lstep1 t inSet newId a).1.id = t.id ∧ (lstep1 t inSet newId a).1.finished = false := by
  rcases t with ⟨k, id, f, rq, c⟩
  cases a <;> simp only [lstep1] at h ⊢ <;> (repeat' split at h) <;> simp_all

theorem lstep1_finishing (t : LTimer) (inSet : Bool) (newId : Nat) (a : LAct)
    (hf : t.finished = false) (hf' : (lstep1 t inSet newId a).1.finished = true) :
    (lstep1 t inSet newId a).2.2.1 = .erase ∨ inSet = false := by
  rcases t with ⟨k, id, f, rq, c⟩
  simp only at hf; subst hf
  cases a <;> simp only [lstep1] at hf' ⊢ <;> (repeat' split) <;> simp_all

theorem cb_step (w : LWorld) (a : LAct) (i : Nat) (h : WInv w) (hc : CB w) : CB (lstep w a i).1 := by
  cases ht : w.timers[i]? with
  | none => rw [lstep_none w a i ht]; exact hc
  | some t =>
    rw [lstep_timers w a i t ht]
    simp only
    generalize hnew : (allocId w.counter).1 = newId
    generalize hr : lstep1 t (w.cleared.contains (t.id.getD newId)) newId a = r
    have hil := (List.getElem?_eq_some_iff.mp ht).1
    have hins := lstep1_insert t (w.cleared.contains (t.id.getD newId)) newId a
    have hfin := lstep1_finishing t (w.cleared.contains (t.id.getD newId)) newId a
    have hsome := fun id h => lstep1_id_some t id h (w.cleared.contains (t.id.getD newId)) newId a
    rw [hr] at hins hfin hsome
    have old : ∀ x, x ∈ w.cleared → x ∈ applyOp r.2.2.1 (t.id.getD newId) w.cleared →
        ∃ (j : Nat) (t' : LTimer), (w.timers.set i r.1)[j]? = some t' ∧ t'.id = some x ∧ t'.finished = false := by
      intro x hx hx'
      obtain ⟨j, tj, hj, hid, hfj⟩ := hc x hx
      by_cases hji : j = i
      · subst hji
        rw [ht] at hj; cases hj
        have hsame := hsome x hid
        cases hrf : r.1.finished with
        | false => exact ⟨j, r.1, List.getElem?_set_self hil, hsame, hrf⟩
        | true =>
          exfalso
          have hgd : t.id.getD newId = x := by rw [hid]; rfl
          rcases hfin hfj hrf with he | he
          · rw [he, hgd] at hx'
            exact nodup_not_mem_erase _ _ h.nodup hx'
          · rw [hgd] at he
            simp only [List.contains_eq_mem, decide_eq_false_iff_not] at he
            exact he hx
      · exact ⟨j, tj, by rw [List.getElem?_set_ne (fun e => hji e.symm)]; exact hj, hid, hfj⟩
    intro x hx
    change x ∈ applyOp r.2.2.1 (t.id.getD newId) w.cleared at hx
    by_cases hxo : x ∈ w.cleared
    · exact old x hxo hx
    · obtain ⟨hop, rfl⟩ := applyOp_new _ _ _ _ hx hxo
      obtain ⟨hne, hsame, hrf⟩ := hins hop
      cases hid : t.id with
      | none => exact absurd hid hne
      | some id => exact ⟨i, r.1, List.getElem?_set_self hil, by rw [hsame, hid]; rfl, hrf⟩

theorem cb_init (counter : Nat) (kinds : List Kind) : CB (mkLWorld counter kinds) := by
  intro x hx; cases hx

theorem cb_lfinal (steps : List (LAct × Nat)) : ∀ w : LWorld, WInv w → CB w →
    w.counter + steps.length < 18446744073709551616 → CB (lfinal w steps) := by
  induction steps with
  | nil => intro w _ hc _; exact hc
  | cons s rest ih =>
    intro w h hc hb
    obtain ⟨a, i⟩ := s
    simp only [List.length_cons] at hb
    have hs := winv_step w a i h (by omega)
    exact ih _ hs.1 (cb_step w a i h hc) (by omega)

theorem nodup_subset_length (l l' : List Nat) (hn : l.Nodup) (hs : ∀ x ∈ l, x ∈ l') : l.length ≤ l'.length :=
  hn.length_le_of_subset fun x hx => hs x hx

/-- the ids of the outstanding timers (started, task not completed) -/
def outstandingIds (w : LWorld) : List Nat :=
  w.timers.filterMap fun t => if t.finished then none else t.id

theorem cb_subset (w : LWorld) (hc : CB w) : ∀ x ∈ w.cleared, x ∈ outstandingIds w := by
  intro x hx
  obtain ⟨j, t, hj, hid, hf⟩ := hc x hx
  simp only [outstandingIds, List.mem_filterMap]
  exact ⟨t, List.mem_of_getElem? hj, by simp [hf, hid]⟩

theorem outstandingIds_length (w : LWorld) :
    (outstandingIds w).length ≤ (w.timers.filter fun t => t.id.isSome && !t.finished).length := by
  unfold outstandingIds
  induction w.timers with
  | nil => simp
  | cons t ts ih =>
    rcases t with ⟨k, id, f, rq, c⟩
    cases id <;> cases f <;> simp <;> omega

theorem cleared_bounded (w : LWorld) (hw : WInv w) (hc : CB w) :
    w.cleared.length ≤ (w.timers.filter fun t => t.id.isSome && !t.finished).length :=
  Nat.le_trans (nodup_subset_length _ _ hw.nodup (cb_subset w hc)) (outstandingIds_length w)

/-- ids are distinct, so the witness `CB` gives is that timer -/
theorem finished_not_cleared (w : LWorld) (hw : WInv w) (hc : CB w) (j : Nat) (t : LTimer) (id : Nat)
    (ht : w.timers[j]? = some t) (hid : t.id = some id) (hf : t.finished = true) : id ∉ w.cleared := by
  intro hm
  obtain ⟨j', t', ht', hid', hf'⟩ := hc id hm
  have := hw.distinct j' j t' t id ht' ht hid' hid
  subst this
  rw [ht] at ht'; cases ht'
  rw [hf] at hf'; cases hf'

/-! In an app that uses both APIs there is one counter and one set; command-API timers never touch the set. -/

theorem cb_mstep (w : MWorld) (a : MAct) (i : Nat) (h : MInv w) (hc : CB w.lw) : CB (mstep w a i).1.lw := by
  unfold mstep
  split
  · split
    · split
      · exact hc
      · exact hc
    · exact hc
  · exact cb_step w.lw (toLAct a) i h.lwinv hc
  · exact hc

theorem cb_mfinal (steps : List (MAct × Nat)) : ∀ w : MWorld, MInv w → CB w.lw →
    w.lw.counter + steps.length < 18446744073709551616 → CB (mfinal w steps).lw := by
  induction steps with
  | nil => intro w _ hc _; exact hc
  | cons s rest ih =>
    intro w h hc hb
    obtain ⟨a, i⟩ := s
    simp only [List.length_cons] at hb
    have hs := minv_step w a i h (by omega)
    exact ih _ hs.1 (cb_mstep w a i h hc) (by omega)

end Lemmas.Timer
