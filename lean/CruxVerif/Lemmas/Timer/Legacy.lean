/-
Legacy capability API, one timer: the run of a legacy timer together with the membership of its id in the process-wide
cleared set (crux_time/src/lib.rs: the ids flagged in `LIVE_TIMERS`), and the simulation by the legacy monitor of the
specification.
-/
import CruxVerif.Lemmas.Timer.Base
namespace Lemmas.Timer
open M.Timer S.Timer

/-- membership of the timer's id in the set after a step -/
def newInSet (op : SetOp) (inSet : Bool) : Bool :=
  match op with
  | .keep => inSet
  | .insert => true
  | .erase => false

def lentry (a : LAct) (o : Out) : LEntry := { act := a, res := o.res, effects := o.effects, events := o.events }

/-- run of one legacy timer; `inSet` tracks whether its id is in the cleared set, `newId` is the id it gets when started -/
def ltrace1 (newId : Nat) : LTimer → Bool → List LAct → List LEntry
  | _, _, [] => []
  | t, inSet, a :: rest =>
    let r := lstep1 t inSet newId a
    lentry a r.2.1 :: ltrace1 newId r.1 (newInSet r.2.2.1 inSet) rest

def lfinal1 (newId : Nat) : LTimer → Bool → List LAct → LTimer
  | t, _, [] => t
  | t, inSet, a :: rest =>
    let r := lstep1 t inSet newId a
    lfinal1 newId r.1 (newInSet r.2.2.1 inSet) rest

/-- well-formedness of a legacy timer -/
def linv (t : LTimer) : Bool :=
  match t.id with
  | none => !t.finished && t.req == {} && t.clears == 0
  | some _ => if t.finished then (t.req.shell == .absent || t.req.answer.isSome)
              else (t.req.shell != .absent && t.req.answer.isNone)

def labs (t : LTimer) : LMon :=
  { requested := t.req.shell != .absent
    appCleared := decide (t.clears > 0)
    answered := t.req.answer
    clearSent := decide (t.clears > 0)
    outcome := false }

/-- the monitor's history matches the timer (after the outcome only `outcome` matters) -/
def LR (m : LMon) (t : LTimer) : Prop :=
  (t.finished = true ∧ m.outcome = true) ∨ (t.finished = false ∧ m = labs t)

/-- one step: with the membership flag in sync (`inSet ↔ clear was called`, while no outcome), the lenient monitor
    accepts the step, stays matched, the timer stays well-formed and the flag stays in sync -/
def LCentral (t : LTimer) (inSet : Bool) (newId : Nat) (a : LAct) (m : LMon) (idf : Option Nat) : Prop :=
  let r := lstep1 t inSet newId a
  let e := lentry a r.2.1
  lcheck false t.kind idf m e = none ∧ LR (m.after t.kind idf e) r.1 ∧ linv r.1 = true ∧ r.1.kind = t.kind ∧
  (r.1.finished = false → newInSet r.2.2.1 inSet = decide (r.1.clears > 0))

theorem lstep1_id_some (t : LTimer) (id : Nat) (h : t.id = some id) (inSet : Bool) (newId : Nat) (a : LAct) :
    (lstep1 t inSet newId a).1.id = some id := by
  rcases t with ⟨k, tid, f, rq, c⟩
  simp only at h; subst h
  cases a <;> simp only [lstep1] <;> (repeat' split) <;> rfl

/-- All `lcheck` asks of a response: is it the expected one (it is never a `cleared`).  Stated apart so that no later
    proof unfolds `respOf`: the kernel evaluates `id + FOREIGN` next to a free `id` in unary. -/
theorem respOf_eq_good (k : Kind) (id : Nat) (s : Shape) : respOf k id s = respOf k id .good ↔ s = .good := by
  cases s <;> cases k <;> simp [respOf]

theorem respOf_ne_cleared (k : Kind) (id id' : Nat) (s : Shape) : respOf k id s ≠ .cleared id' := by
  cases s <;> cases k <;> simp [respOf]

/-- closes an instance of `LCentral` once the fields the action inspects are constructors: unfolds the step, the
    lenient check and the monitor's update -/
macro "lbash" : tactic => `(tactic|
  simp_all [LCentral, lstep1, lentry, lcheck, LMon.after, LR, labs, linv, newInSet, respOf_eq_good, respOf_ne_cleared,
      Req.resolve, Req.drop, shell_beq, res_beq, bne])

theorem lcentral (t : LTimer) (inSet : Bool) (newId : Nat) (a : LAct) (m : LMon) (idf : Option Nat)
    (hi : linv t = true) (hR : LR m t) (hs : t.finished = false → inSet = decide (t.clears > 0))
    (hid : (lstep1 t inSet newId a).1.id = none ∨ (lstep1 t inSet newId a).1.id = idf) :
    LCentral t inSet newId a m idf := by
  -- `hs` is the invariant that makes the set and the monitor agree: while the timer is unfinished its id is in the set
  -- iff `clear` was called (`clear` inserts and counts; the only steps that erase, a poll at `start` or at an accepted
  -- answer, also finish the timer). Each action inspects the id, `finished` and, for the request actions, the request.
  rcases t with ⟨k, id, finished, ⟨rs, ra⟩, clears⟩
  rcases m with ⟨m1, m2, m3, m4, m5⟩
  cases id with
  | none =>
    obtain ⟨⟨rfl, rfl, rfl⟩, rfl⟩ : (finished = false ∧ rs = .absent ∧ ra = none) ∧ clears = 0 := by
      simpa [linv] using hi
    cases idf <;> cases a <;> lbash
  | some id =>
    rw [lstep1_id_some _ id rfl] at hid
    obtain rfl : idf = some id := by simpa [eq_comm] using hid
    cases finished
    case false =>
      obtain rfl := hs rfl
      cases a
      -- `inSet` is now `decide (clears > 0)`, and the poll after an accepted answer branches on it
      case resolveReq s => cases rs <;> cases ra <;> cases clears <;> lbash
      case dropReq => cases rs <;> lbash
      all_goals lbash
    case true =>
      cases a
      case resolveReq s => cases rs <;> cases ra <;> lbash
      case dropReq => cases rs <;> lbash
      all_goals lbash

theorem linv_fresh (k : Kind) : linv { kind := k } = true := by
  simp (config := {decide := true}) [linv]

theorem LR_fresh (k : Kind) : LR {} { kind := k } := by
  right
  refine ⟨rfl, ?_⟩
  simp (config := {decide := true}) [labs]

theorem lfinal1_id_some (newId : Nat) (acts : List LAct) : ∀ (t : LTimer) (inSet : Bool) (id : Nat),
    t.id = some id → (lfinal1 newId t inSet acts).id = some id := by
  induction acts with
  | nil => intro t _ id h; exact h
  | cons a rest ih =>
    intro t inSet id h
    simp only [lfinal1]
    exact ih _ _ id (lstep1_id_some t id h inSet newId a)

theorem lverdict1_ltrace1 (newId : Nat) (acts : List LAct) : ∀ (t : LTimer) (inSet : Bool) (m : LMon),
    linv t = true → LR m t → (t.finished = false → inSet = decide (t.clears > 0)) →
    lverdict1 false t.kind (lfinal1 newId t inSet acts).id m (ltrace1 newId t inSet acts) = none := by
  induction acts with
  | nil => intro t inSet m _ _ _; rfl
  | cons a rest ih =>
    intro t inSet m hi hR hs
    have hid : (lstep1 t inSet newId a).1.id = none ∨
        (lstep1 t inSet newId a).1.id = (lfinal1 newId t inSet (a :: rest)).id := by
      cases h : (lstep1 t inSet newId a).1.id with
      | none => exact Or.inl rfl
      | some id => right; simp only [lfinal1]; rw [lfinal1_id_some newId rest _ _ id h]
    have hc := lcentral t inSet newId a m _ hi hR hs hid
    obtain ⟨h1, h2, h3, h4, h5⟩ := hc
    simp only [ltrace1, lverdict1]
    rw [h1]
    simp only []
    have := ih (lstep1 t inSet newId a).1 (newInSet (lstep1 t inSet newId a).2.2.1 inSet) _ h3 h2 h5
    rw [h4] at this
    simpa [lfinal1] using this

end Lemmas.Timer
