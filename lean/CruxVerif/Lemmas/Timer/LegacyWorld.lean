/-
Legacy capability API, several timers sharing the process-wide counter and cleared set: the invariant of
the joint state (ids below the counter and pairwise distinct, the set in sync with every pending timer) and the
lenient legacy oracle accepting every joint run.
-/
import CruxVerif.Lemmas.Timer.Legacy
namespace Lemmas.Timer
open M.Timer S.Timer

theorem nodup_not_mem_erase (s : List Nat) (x : Nat) (hn : s.Nodup) : x ∉ s.erase x :=
  fun h => ((List.Nodup.mem_erase_iff hn).mp h).1 rfl

theorem contains_applyOp_self (op : SetOp) (id : Nat) (s : List Nat) (hn : s.Nodup) :
    (applyOp op id s).contains id = newInSet op (s.contains id) := by
  cases op
  · rfl
  · simp only [applyOp, newInSet]
    split
    · assumption
    · simp
  · simp only [applyOp, newInSet, List.contains_eq_mem, decide_eq_false_iff_not]
    exact nodup_not_mem_erase s id hn

theorem contains_applyOp_ne (op : SetOp) (id x : Nat) (s : List Nat) (hne : x ≠ id) :
    (applyOp op id s).contains x = s.contains x := by
  cases op
  · rfl
  · simp only [applyOp]
    split
    · rfl
    · simp [hne]
  · simp only [applyOp, List.contains_eq_mem]
    congr 1
    exact propext (List.mem_erase_of_ne hne)

theorem nodup_applyOp (op : SetOp) (id : Nat) (s : List Nat) (hn : s.Nodup) : (applyOp op id s).Nodup := by
  cases op
  · exact hn
  · simp only [applyOp]
    split
    · exact hn
    · rename_i h
      exact List.nodup_cons.mpr ⟨by simpa using h, hn⟩
  · exact hn.erase id

theorem applyOp_new (op : SetOp) (id x : Nat) (s : List Nat) (h : x ∈ applyOp op id s) (hx : x ∉ s) :
    op = .insert ∧ x = id := by
  cases op
  · exact absurd h hx
  · simp only [applyOp] at h
    split at h
    · exact absurd h hx
    · exact ⟨rfl, (List.mem_cons.mp h).resolve_right hx⟩
  · exact absurd (List.mem_of_mem_erase h) hx

theorem allocId_eq (c : Nat) (h : c + 1 < USIZE) : allocId c = (c, c + 1) := by
  simp only [allocId, Prod.mk.injEq]; omega

/-- The step is about the id `t.id.getD c`: the timer's own, or for an unstarted timer the one
    the counter would hand out, which it gets exactly when an id is allocated; if it stays unstarted the set is left
    alone. -/
theorem lstep1_ids (t : LTimer) (inSet : Bool) (c : Nat) (a : LAct) (hlt : ∀ id, t.id = some id → id < c) :
    let r := lstep1 t inSet c a
    (r.1.id = none ∧ r.2.2.1 = .keep) ∨
    (r.1.id = some (t.id.getD c) ∧ t.id.getD c < if r.2.2.2 then c + 1 else c) := by
  rcases t with ⟨k, id, f, rq, cl⟩
  cases id with
  | some id => exact Or.inr ⟨lstep1_id_some _ id rfl _ _ _, by have := hlt id rfl; show id < _; split <;> omega⟩
  | none => cases a <;> simp only [lstep1] <;> (repeat' split) <;> simp_all

/-- the joint legacy state is consistent -/
structure WInv (w : LWorld) : Prop where
  nodup : w.cleared.Nodup
  small : ∀ x ∈ w.cleared, x < w.counter
  idlt : ∀ (j : Nat) (t : LTimer) (id : Nat), w.timers[j]? = some t → t.id = some id → id < w.counter
  sync : ∀ (j : Nat) (t : LTimer) (id : Nat), w.timers[j]? = some t → t.id = some id → t.finished = false →
    w.cleared.contains id = decide (t.clears > 0)
  wf : ∀ (j : Nat) (t : LTimer), w.timers[j]? = some t → linv t = true
  distinct : ∀ (i j : Nat) (ti tj : LTimer) (id : Nat), w.timers[i]? = some ti → w.timers[j]? = some tj →
    ti.id = some id → tj.id = some id → i = j

/-- the flag a timer of the world is stepped with is in sync (an unstarted timer was never cleared, and the id it would
    get is not in the set) -/
theorem winv_flag (w : LWorld) (h : WInv w) (i : Nat) (t : LTimer) (ht : w.timers[i]? = some t) :
    t.finished = false → w.cleared.contains (t.id.getD w.counter) = decide (t.clears > 0) := by
  intro hf
  cases hid : t.id with
  | some id => simpa using h.sync i t id ht hid hf
  | none =>
    have hl := h.wf i t ht
    simp only [linv, hid, Bool.and_eq_true, beq_iff_eq] at hl
    have : ¬ w.counter ∈ w.cleared := fun hm => Nat.lt_irrefl _ (h.small _ hm)
    simp [hl.2, this]

theorem lstep_none (w : LWorld) (a : LAct) (i : Nat) (ht : w.timers[i]? = none) : lstep w a i = (w, {}) := by
  simp [lstep, ht]

theorem lstep_timers (w : LWorld) (a : LAct) (i : Nat) (t : LTimer) (ht : w.timers[i]? = some t) :
    lstep w a i =
      let newId := (allocId w.counter).1
      let id := t.id.getD newId
      let r := lstep1 t (w.cleared.contains id) newId a
      ({ counter := if r.2.2.2 then (allocId w.counter).2 else w.counter,
         cleared := applyOp r.2.2.1 id w.cleared, timers := w.timers.set i r.1 }, r.2.1) := by
  simp [lstep, ht, lstepTimer]

/-- while the counter does not wrap, the id handed out is the counter itself -/
theorem lstep_some (w : LWorld) (a : LAct) (i : Nat) (t : LTimer) (ht : w.timers[i]? = some t)
    (hb : w.counter + 1 < USIZE) :
    lstep w a i =
      let r := lstep1 t (w.cleared.contains (t.id.getD w.counter)) w.counter a
      ({ counter := if r.2.2.2 then w.counter + 1 else w.counter,
         cleared := applyOp r.2.2.1 (t.id.getD w.counter) w.cleared, timers := w.timers.set i r.1 }, r.2.1) := by
  rw [lstep_timers w a i t ht, allocId_eq _ hb]

theorem lstep_length (w : LWorld) (a : LAct) (i : Nat) : (lstep w a i).1.timers.length = w.timers.length := by
  unfold lstep
  split <;> simp

theorem lstep_other (w : LWorld) (a : LAct) (i j : Nat) (hne : i ≠ j) : (lstep w a i).1.timers[j]? = w.timers[j]? := by
  unfold lstep
  split
  · rfl
  · exact List.getElem?_set_ne hne

theorem getElem?_set_some {α : Type} {l : List α} {i j : Nat} {x u : α} (h : (l.set i x)[j]? = some u) :
    (j = i ∧ u = x) ∨ (j ≠ i ∧ l[j]? = some u) := by
  rw [List.getElem?_set] at h
  by_cases hij : i = j
  · rw [if_pos hij] at h
    split at h
    · exact Or.inl ⟨hij.symm, (Option.some.inj h).symm⟩
    · cases h
  · rw [if_neg hij] at h
    exact Or.inr ⟨fun e => hij e.symm, h⟩

theorem lstep1_wf (t : LTimer) (inSet : Bool) (newId : Nat) (a : LAct) (hi : linv t = true)
    (hs : t.finished = false → inSet = decide (t.clears > 0)) :
    linv (lstep1 t inSet newId a).1 = true ∧ ((lstep1 t inSet newId a).1.finished = false →
      newInSet (lstep1 t inSet newId a).2.2.1 inSet = decide ((lstep1 t inSet newId a).1.clears > 0)) := by
  have hl := lcentral t inSet newId a (if t.finished then { outcome := true } else labs t) _ hi
    (by cases hf : t.finished <;> simp [LR, hf]) hs (Or.inr rfl)
  exact ⟨hl.2.2.1, hl.2.2.2.2⟩

theorem winv_step (w : LWorld) (a : LAct) (i : Nat) (h : WInv w) (hb : w.counter + 1 < 18446744073709551616) :
    WInv (lstep w a i).1 ∧ w.counter ≤ (lstep w a i).1.counter ∧ (lstep w a i).1.counter ≤ w.counter + 1 := by
  cases ht : w.timers[i]? with
  | none => rw [lstep_none w a i ht]; exact ⟨h, Nat.le_refl _, Nat.le_succ _⟩
  | some t =>
    obtain ⟨hwf, hflag⟩ := lstep1_wf t _ w.counter a (h.wf i t ht) (winv_flag w h i t ht)
    have hids := lstep1_ids t (w.cleared.contains (t.id.getD w.counter)) w.counter a (h.idlt i t · ht)
    rw [lstep_some w a i t ht hb]
    generalize lstep1 t (w.cleared.contains (t.id.getD w.counter)) w.counter a = r at hwf hflag hids ⊢
    generalize hq : t.id.getD w.counter = q at hflag hids ⊢
    have hc : w.counter ≤ (if r.2.2.2 then w.counter + 1 else w.counter) ∧
        (if r.2.2.2 then w.counter + 1 else w.counter) ≤ w.counter + 1 := by split <;> omega
    refine ⟨?_, hc⟩
    have hrid : ∀ id, r.1.id = some id → id = q ∧ id < if r.2.2.2 then w.counter + 1 else w.counter := by
      intro id hid
      rcases hids with ⟨hn, _⟩ | ⟨hs, hlt⟩
      · rw [hn] at hid; cases hid
      · rw [hs] at hid; cases hid; exact ⟨rfl, hlt⟩
    have hother : ∀ j u id, j ≠ i → w.timers[j]? = some u → u.id = some id → id ≠ q := by
      intro j u id hji hu hid heq
      rw [← hq] at heq
      cases htid : t.id with
      | some tid => rw [htid] at heq; exact hji (h.distinct j i u t id hu ht hid (by rw [htid, heq]; rfl))
      | none => rw [htid] at heq; exact Nat.lt_irrefl _ (heq ▸ h.idlt j u id hu hid)
    constructor <;> dsimp only
    · exact nodup_applyOp _ _ _ h.nodup
    · intro x hx
      by_cases hxo : x ∈ w.cleared
      · exact Nat.lt_of_lt_of_le (h.small x hxo) hc.1
      · obtain ⟨hop, rfl⟩ := applyOp_new _ _ _ _ hx hxo
        rcases hids with ⟨_, hkeep⟩ | ⟨_, hlt⟩
        · rw [hkeep] at hop; cases hop
        · exact hlt
    · intro j u id hu hid
      rcases getElem?_set_some hu with ⟨_, rfl⟩ | ⟨_, hu'⟩
      · exact (hrid id hid).2
      · exact Nat.lt_of_lt_of_le (h.idlt j u id hu' hid) hc.1
    · intro j u id hu hid hf
      rcases getElem?_set_some hu with ⟨_, rfl⟩ | ⟨hji, hu'⟩
      · rw [(hrid id hid).1, contains_applyOp_self _ _ _ h.nodup]
        exact hflag hf
      · rw [contains_applyOp_ne _ _ _ _ (hother j u id hji hu' hid)]
        exact h.sync j u id hu' hid hf
    · intro j u hu
      rcases getElem?_set_some hu with ⟨_, rfl⟩ | ⟨_, hu'⟩
      · exact hwf
      · exact h.wf j u hu'
    · intro j1 j2 u1 u2 id hu1 hu2 hid1 hid2
      rcases getElem?_set_some hu1 with ⟨rfl, rfl⟩ | ⟨hj1, hu1'⟩ <;>
        rcases getElem?_set_some hu2 with ⟨rfl, rfl⟩ | ⟨hj2, hu2'⟩
      · rfl
      · exact absurd (hrid id hid1).1 (hother j2 u2 id hj2 hu2' hid2)
      · exact absurd (hrid id hid2).1 (hother j1 u1 id hj1 hu1' hid1)
      · exact h.distinct j1 j2 u1 u2 id hu1' hu2' hid1 hid2

/-- `idf` is the timer's id once it has one -/
theorem lstep_sound (w : LWorld) (a : LAct) (i : Nat) (t : LTimer) (m : LMon) (idf : Option Nat) (h : WInv w)
    (hb : w.counter + 1 < USIZE) (ht : w.timers[i]? = some t) (hR : LR m t) :
    ∃ t', (lstep w a i).1.timers[i]? = some t' ∧ ∀ es : List LEntry, (t'.id = none ∨ t'.id = idf) →
      (∀ m', LR m' t' → lverdict1 false t'.kind idf m' es = none) →
      lverdict1 false t.kind idf m (lentry a (lstep w a i).2 :: es) = none := by
  rw [lstep_some w a i t ht hb]
  refine ⟨_, List.getElem?_set_self (List.getElem?_eq_some_iff.mp ht).1, fun es hid hes => ?_⟩
  obtain ⟨h1, h2, _, h4, _⟩ := lcentral t _ w.counter a m idf (h.wf i t ht) hR (winv_flag w h i t ht) hid
  have := hes _ h2
  rw [h4] at this
  rw [lverdict1, h1]
  exact this

theorem lstep_id_some (w : LWorld) (a : LAct) (i j : Nat) (t : LTimer) (id : Nat) (ht : w.timers[j]? = some t)
    (hid : t.id = some id) : ∃ t', (lstep w a i).1.timers[j]? = some t' ∧ t'.id = some id := by
  by_cases hij : i = j
  · subst hij
    simp only [lstep, ht]
    exact ⟨_, List.getElem?_set_self (List.getElem?_eq_some_iff.mp ht).1, lstep1_id_some t id hid _ _ a⟩
  · exact ⟨t, by rw [lstep_other w a i j hij]; exact ht, hid⟩

theorem lfinal_id_some (j : Nat) (steps : List (LAct × Nat)) : ∀ (w : LWorld) (t : LTimer) (id : Nat),
    w.timers[j]? = some t → t.id = some id → ∀ tf, (lfinal w steps).timers[j]? = some tf → tf.id = some id := by
  induction steps with
  | nil => intro w t id ht hid tf htf; rw [lfinal, ht] at htf; cases htf; exact hid
  | cons s rest ih =>
    intro w t id ht hid tf htf
    obtain ⟨a, i⟩ := s
    obtain ⟨t', ht', hid'⟩ := lstep_id_some w a i j t id ht hid
    exact ih _ t' id ht' hid' tf htf

theorem lverdict1_lrun (j : Nat) (steps : List (LAct × Nat)) : ∀ (w : LWorld) (m : LMon) (t : LTimer),
    WInv w → w.counter + steps.length < 18446744073709551616 → w.timers[j]? = some t → LR m t →
    ∀ tf, (lfinal w steps).timers[j]? = some tf →
    lverdict1 false t.kind tf.id m (lproject j (steps.zip (lrun w steps))) = none := by
  induction steps with
  | nil => intro w m t _ _ _ _ tf _; rfl
  | cons s rest ih =>
    intro w m t hw hb ht hR tf htf
    obtain ⟨a, i⟩ := s
    simp only [List.length_cons] at hb
    have hstep := winv_step w a i hw (by omega)
    simp only [lfinal] at htf
    simp only [lrun, List.zip_cons_cons, lproject, List.filter_cons]
    by_cases hij : i = j
    · subst hij
      obtain ⟨t', ht', hs⟩ := lstep_sound w a i t m tf.id hw (by omega) ht hR
      have hid : t'.id = none ∨ t'.id = tf.id := by
        cases h : t'.id with
        | none => exact Or.inl rfl
        | some id => exact Or.inr (lfinal_id_some i rest _ _ id ht' h tf htf).symm
      simp only [beq_self_eq_true, if_true, List.map_cons]
      exact hs _ hid fun m' hR' => ih _ m' t' hstep.1 (by omega) ht' hR' tf htf
    · have hne : (i == j) = false := by simpa using hij
      simp only [hne, Bool.false_eq_true, if_false]
      exact ih _ m t hstep.1 (by omega) (by rw [lstep_other w a i j hij]; exact ht) hR tf htf

theorem lrun_length (steps : List (LAct × Nat)) : ∀ w, (lrun w steps).length = steps.length := by
  induction steps with
  | nil => intro w; rfl
  | cons s rest ih => intro w; obtain ⟨a, i⟩ := s; simp [lrun, ih]

theorem lfinal_length (steps : List (LAct × Nat)) : ∀ w, (lfinal w steps).timers.length = w.timers.length := by
  induction steps with
  | nil => intro w; rfl
  | cons s rest ih => intro w; obtain ⟨a, i⟩ := s; simp only [lfinal]; rw [ih, lstep_length]

theorem lrun_foreign (n : Nat) (steps : List (LAct × Nat)) : ∀ w : LWorld, w.timers.length = n →
    ((steps.zip (lrun w steps)).all fun s => decide (s.1.2 < n) || (s.2.effects.isEmpty && s.2.events.isEmpty)) = true := by
  induction steps with
  | nil => intro w _; rfl
  | cons s rest ih =>
    intro w hn
    obtain ⟨a, i⟩ := s
    simp only [lrun, List.zip_cons_cons, List.all_cons, Bool.and_eq_true]
    refine ⟨?_, ih _ (by rw [lstep_length]; exact hn)⟩
    by_cases hi : i < n
    · simp [hi]
    · have : w.timers[i]? = none := List.getElem?_eq_none (by omega)
      rw [lstep_none w a i this]
      simp

theorem winv_init (counter : Nat) (kinds : List Kind) : WInv (mkLWorld counter kinds) := by
  have hget : ∀ (j : Nat) (t : LTimer), (mkLWorld counter kinds).timers[j]? = some t → ∃ k : Kind, t = { kind := k } := by
    intro j t h
    simp only [mkLWorld, List.getElem?_map] at h
    cases hk : kinds[j]? with
    | none => rw [hk] at h; cases h
    | some k => rw [hk] at h; exact ⟨k, (Option.some.inj h).symm⟩
  constructor
  · exact List.nodup_nil
  · intro x hx; cases hx
  · intro j t id ht hid; obtain ⟨k, rfl⟩ := hget j t ht; cases hid
  · intro j t id ht hid; obtain ⟨k, rfl⟩ := hget j t ht; cases hid
  · intro j t ht; obtain ⟨k, rfl⟩ := hget j t ht; exact linv_fresh k
  · intro i j ti tj id hti _ hid; obtain ⟨k, rfl⟩ := hget i ti hti; cases hid

theorem winv_lfinal (steps : List (LAct × Nat)) : ∀ w : LWorld, WInv w →
    w.counter + steps.length < 18446744073709551616 → WInv (lfinal w steps) := by
  induction steps with
  | nil => intro w h _; exact h
  | cons s rest ih =>
    intro w h hb
    obtain ⟨a, i⟩ := s
    simp only [List.length_cons] at hb
    have hs := winv_step w a i h (by omega)
    exact ih _ hs.1 (by omega)

theorem lverdict_lrun (counter : Nat) (kinds : List Kind) (steps : List (LAct × Nat))
    (hb : counter + steps.length < 18446744073709551616) :
    lverdict false kinds ((lfinal (mkLWorld counter kinds) steps).timers.map (·.id)) steps true
      (lrun (mkLWorld counter kinds) steps) = none := by
  unfold lverdict
  have hl := lrun_length steps (mkLWorld counter kinds)
  have hf := lrun_foreign kinds.length steps (mkLWorld counter kinds) (by simp [mkLWorld])
  simp only [Bool.not_true, Bool.false_eq_true, if_false, hl, bne_self_eq_false, hf]
  rw [List.findSome?_eq_none_iff]
  intro j _
  cases hk : kinds[j]? with
  | none => rfl
  | some k =>
    have ht : (mkLWorld counter kinds).timers[j]? = some { kind := k } := by
      simp [mkLWorld, List.getElem?_map, hk]
    have hjl : j < (lfinal (mkLWorld counter kinds) steps).timers.length := by
      rw [lfinal_length]
      rcases Nat.lt_or_ge j (mkLWorld counter kinds).timers.length with h' | h'
      · exact h'
      · rw [List.getElem?_eq_none h'] at ht; cases ht
    rw [List.getElem?_map, List.getElem?_eq_getElem hjl]
    simp only [Option.map_some]
    exact lverdict1_lrun j steps (mkLWorld counter kinds) {} { kind := k } (winv_init counter kinds) hb ht
      (LR_fresh k) _ (List.getElem?_eq_getElem hjl)

end Lemmas.Timer
