/- Direct (monitor-free) arguments on the model: counting outcomes, and state properties under which nothing more is
   shown. -/
import CruxVerif.Lemmas.Timer.World
namespace Lemmas.Timer
open M.Timer S.Timer

/-- how many outcomes a timer can still report -/
def budget (t : Timer) : Nat :=
  match t.ctl with
  | .notStarted | .waiting | .clearPending => 1
  | _ => 0

theorem runTask_budget (u : Timer) : (runTask u).2.events.length + budget (runTask u).1 ≤ budget u := by
  unfold runTask
  repeat' split
  all_goals simp_all [budget]

theorem step_budget (t : Timer) (a : Act) (ran : Bool) :
    (step t a ran).2.events.length + budget (step t a ran).1 ≤ budget t := by
  by_cases hp : t.ctl = .panicked
  · simp [step, hp]
  · have hb : ∀ u : Timer, u.ctl = t.ctl → budget u = budget t := fun u h => by simp [budget, h]
    have hr := runTask_budget { (act t a).1 with woken := false }
    rw [hb { (act t a).1 with woken := false } (act_ctl t a)] at hr
    dsimp only at hr
    rw [step_eq_settle t a ran hp]
    unfold settle
    split
    · dsimp only
      split
      · simp only [List.length_nil, Nat.zero_add]; omega
      · exact hr
    · simp [hb _ (act_ctl t a)]

theorem trace_budget (acts : List (Act × Bool)) : ∀ t : Timer,
    ((trace t acts).flatMap fun x => x.2.2.events).length ≤ budget t := by
  induction acts with
  | nil => intro t; simp [trace]
  | cons x rest ih =>
    intro t
    obtain ⟨a, ran⟩ := x
    have h1 := step_budget t a ran
    have h2 := ih (step t a ran).1
    simp only [trace, List.flatMap_cons, List.length_append]
    omega

/-- a step shows what one poll showed, or nothing -/
theorem step_invariant {P : Timer → Prop} {Q : List Eff → List Ev → Prop} (h0 : Q [] [])
    (hw : ∀ u, P u → P { u with woken := false }) (hact : ∀ t a, P t → P (act t a).1)
    (hrun : ∀ u, P u → P (runTask u).1 ∧ Q (runTask u).2.effects (runTask u).2.events)
    (t : Timer) (a : Act) (ran : Bool) (h : P t) :
    P (step t a ran).1 ∧ Q (step t a ran).2.effects (step t a ran).2.events := by
  by_cases hp : t.ctl = .panicked
  · simp only [step, hp, if_true]; exact ⟨h, h0⟩
  · rw [step_eq_settle t a ran hp]
    unfold settle
    split
    · obtain ⟨h1, h2⟩ := hrun _ (hw _ (hact t a h))
      dsimp only
      split
      · exact ⟨h1, h0⟩
      · exact ⟨h1, h2⟩
    · exact ⟨hact t a h, h0⟩

theorem trace_invariant {P : Timer → Prop} {Q : List Eff → List Ev → Prop} (h0 : Q [] [])
    (hw : ∀ u, P u → P { u with woken := false }) (hact : ∀ t a, P t → P (act t a).1)
    (hrun : ∀ u, P u → P (runTask u).1 ∧ Q (runTask u).2.effects (runTask u).2.events) :
    ∀ (acts : List (Act × Bool)) (t : Timer), P t → ∀ x ∈ trace t acts, Q x.2.2.effects x.2.2.events := by
  intro acts
  induction acts with
  | nil => intro t _ x hx; simp [trace] at hx
  | cons y rest ih =>
    intro t hP x hx
    obtain ⟨a, ran⟩ := y
    obtain ⟨h1, h2⟩ := step_invariant h0 hw hact hrun t a ran hP
    simp only [trace, List.mem_cons] at hx
    rcases hx with hx | hx
    · rw [hx]; exact h2
    · exact ih _ h1 x hx

theorem act_handle_of_ne_alive (t : Timer) (a : Act) (h : t.handle ≠ .alive) : (act t a).1.handle = t.handle := by
  cases a <;> simp only [act] <;> (try split) <;> simp_all

theorem earlyCleared_trace (acts : List (Act × Bool)) (t : Timer) (hh : t.handle = .cleared)
    (hc : t.ctl = .notStarted ∨ t.ctl = .cleared) : ∀ x ∈ trace t acts, x.2.2.effects = [] :=
  trace_invariant (P := fun t => t.handle = .cleared ∧ (t.ctl = .notStarted ∨ t.ctl = .cleared))
    (Q := fun effs _ => effs = []) rfl (fun _ h => h)
    (fun t a h => ⟨by rw [act_handle_of_ne_alive t a (by rw [h.1]; decide), h.1], by rw [act_ctl]; exact h.2⟩)
    (fun u h => by rcases h.2 with h2 | h2 <;> simp [runTask, h.1, h2]) acts t ⟨hh, hc⟩

/-- a dropped handle is never in `clearPending` (`inv`), where the answer to a Clear request would be reported -/
theorem handleDropped_trace (acts : List (Act × Bool)) (t : Timer) (hi : inv t = true) (hd : t.handle = .dropped) :
    ∀ x ∈ trace t acts, (∀ y ∈ x.2.2.effects, y ≠ .clear t.id) ∧ Ev.cleared ∉ x.2.2.events := by
  have hcp : t.ctl ≠ .clearPending := by
    intro hc
    simp (config := {decide := true}) [inv, hc, hd] at hi
  refine trace_invariant (P := fun u => u.id = t.id ∧ u.handle = .dropped ∧ u.ctl ≠ .clearPending)
    (Q := fun effs evs => (∀ y ∈ effs, y ≠ .clear t.id) ∧ Ev.cleared ∉ evs) (by simp) (fun _ h => h)
    (fun u a h => ⟨(act_kind_id u a).2.trans h.1,
      by rw [act_handle_of_ne_alive u a (by rw [h.2.1]; decide), h.2.1], by rw [act_ctl]; exact h.2.2⟩)
    (fun u h => ?_) acts t ⟨rfl, hd, hcp⟩
  obtain ⟨h1, h2, h3⟩ := h
  rw [← h1]
  unfold runTask
  repeat' split
  all_goals simp_all

theorem reported_trace (acts : List (Act × Bool)) (t : Timer) (h : t.ctl = .completed ∨ t.ctl = .cleared) :
    ∀ x ∈ trace t acts, x.2.2.effects = [] ∧ x.2.2.events = [] :=
  trace_invariant (P := fun t => t.ctl = .completed ∨ t.ctl = .cleared) (Q := fun effs evs => effs = [] ∧ evs = [])
    ⟨rfl, rfl⟩ (fun _ h => h) (fun t a h => by rw [act_ctl]; exact h)
    (fun u h => by rcases h with h | h <;> simp [runTask, h]) acts t h

end Lemmas.Timer
