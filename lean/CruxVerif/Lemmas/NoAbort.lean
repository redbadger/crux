/-
`NAb`: no task has been aborted through a join handle and no abort handle exists — what a simpleS task program (no
`abortTask`, no `abortCmd`, no abortable command) keeps true through every poll (`NASGood`) and the executor.
-/
import CruxVerif.Lemmas.SimpleS
namespace M.Rt

def NAb (w : World) : Prop := (∀ m ∈ w.metas, m.aborted = false) ∧ w.aborts = []

theorem NAb.of_same {w w' : World} (h : NAb w) (hm : w'.metas = w.metas) (ha : w'.aborts = w.aborts) : NAb w' :=
  ⟨by rw [hm]; exact h.1, by rw [ha]; exact h.2⟩

theorem NAb.getMeta {w : World} (h : NAb w) (s : Nat) : (w.getMeta s).aborted = false := by
  unfold World.getMeta
  cases hs : w.metas[s]? with
  | none => rfl
  | some m => exact h.1 m (List.mem_of_getElem? hs)

theorem wake_aborts : ∀ (f : Nat) (wk : Waker) (w : World), (wake f wk w).aborts = w.aborts := by
  intro f
  induction f with
  | zero => intro wk w; cases wk <;> simp [wake, World.anomaly]
  | succ f ih =>
    intro wk w
    cases wk with
    | root e => simp [wake]
    | task c t s =>
      simp only [wake]
      split
      · split <;> rfl
      · rw [ih]; split <;> rfl

section
variable {w : World}
theorem nab_modMeta (s : Nat) (f : Meta → Meta) (hf : ∀ m, m.aborted = false → (f m).aborted = false) (h : NAb w) :
    NAb (w.modMeta s f) :=
  ⟨mem_modifyNth (fun m : Meta => m.aborted = false) f hf w.metas s h.1, h.2⟩
theorem nab_newMeta (h : NAb w) : NAb w.newMeta.2 := by
  refine ⟨?_, h.2⟩
  intro m hm
  simp only [World.newMeta, List.mem_append, List.mem_singleton] at hm
  rcases hm with hm | rfl
  · exact h.1 m hm
  · rfl
theorem nab_sinkEvent (sk : Sink) (e : Ev) (h : NAb w) : NAb (w.sinkEvent sk e) := by cases sk <;> exact h.of_same rfl rfl
theorem nab_sinkEffect (sk : Sink) (e : Eff) (h : NAb w) : NAb (w.sinkEffect sk e) := by cases sk <;> exact h.of_same rfl rfl
theorem nab_newLeaf (k : Option Waker) (lg : Bool) (h : NAb w) : NAb (w.newLeaf k lg).2 := h.of_same rfl rfl
theorem nab_modCmd (c : Nat) (f : CmdSt → CmdSt) (h : NAb w) : NAb (w.modCmd c f) := h.of_same rfl rfl
theorem nab_modLeaf (l : Nat) (f : Leaf → Leaf) (h : NAb w) : NAb (w.modLeaf l f) := h.of_same rfl rfl
theorem nab_dropReceiver (l : Nat) (h : NAb w) : NAb (w.dropReceiver l) := h.of_same rfl rfl
theorem nab_execSpawn (xs : List ExecTask) (h : NAb w) : NAb ({ w with execSpawn := xs } : World) := h.of_same rfl rfl
theorem nab_wake (k : Waker) (h : NAb w) : NAb (w.wake k) := h.of_same (wake_leaves _ k w).2 (wake_aborts _ k w)
theorem nab_dropBlock (b : Block) (hb : hostFreeB b = true) (h : NAb w) : NAb (w.dropBlock b) :=
  dropBlock_hf_ind NAb (fun _ l hw => nab_dropReceiver l hw) _ b w hb h
end

theorem nab_wakeAll : ∀ (ks : List Waker) (W : World), NAb W → NAb (W.wakeAll ks) := by
  intro ks
  induction ks with
  | nil => intro W h; exact h
  | cons k ks ih => intro W h; exact ih _ (nab_wake k h)

/-- the steps of a poll of a simpleS block keep `NAb`: those that abort are not among them -/
theorem nab_classOps (wk : Waker) (sink : Sink) : ClassOps SimpleSHF wk sink (fun _ => True) NAb where
  event _ e := nab_sinkEvent sink e
  effect _ e := nab_sinkEffect sink e
  newLeaf _ lg h := ⟨nab_newLeaf _ lg h, trivial⟩
  spawn _ c _ _ _ _ h := nab_modCmd c _ (nab_newMeta h)
  legacy _ _ _ _ _ := nab_execSpawn _
  handoff _ c _ _ _ _ _ _ _ _ _ h := nab_modCmd c _ (nab_newMeta h)
  legacyHandoff _ _ _ _ _ _ _ _ _ _ := nab_execSpawn _
  abortTask _ _ _ _ _ hb := absurd hb SimpleSHF.not_abortTask
  abortCmd _ _ _ _ _ hb := absurd hb SimpleSHF.not_abortCmd
  dropReceiver _ l _ := nab_dropReceiver l
  setWaker _ l _ _ := nab_modLeaf l _
  setQueue _ l _ _ := nab_modLeaf l _
  join _ _ _ _ hb := absurd hb SimpleSHF.not_awaiting
  wake _ := nab_wake wk

def NASGood (pn : Waker → Nat → World → Option (NextRes × World)) (f : Nat) : Prop :=
  ∀ wk sink b w r w', pollBlock pn f wk sink b w = some (r, w') → hostFreeB b = true → simpleSB b = true → NAb w → NAb w'

theorem pollBlock_nasgood (pn) (f : Nat) : NASGood pn f := fun wk sink b w r w' h hf hs hw =>
  (pollBlock_inv_class pn simpleSHF_pollClass (fun _ h => h.2) (nab_classOps wk sink) f b w r w' h ⟨hs, hf⟩ (fun _ _ => trivial) hw).1

end M.Rt
