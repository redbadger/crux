/- Invariants of the P-slot LTS (Model/Slot.lean), for any number of threads and tasks and every interleaving. -/
import CruxVerif.Model.Slot
namespace M.Slot

/-- the configuration is consistent: a request is waited on by its owner only -/
def Cfg.Ok (cfg : Cfg) : Prop := ∀ t q, q ∈ cfg.needs t → cfg.owner q = t

def holdsId (t : Nat) : Pc → Bool
  | .hand t' _ => t' == t | .requeuePt t' _ => t' == t | _ => false
def atWake (t : Nat) : Pc → Bool
  | .wakePt t' => t' == t | _ => false
def atTaken (t : Nat) : Pc → Bool
  | .takenPt t' => t' == t | _ => false
def atDoneTrue (t : Nat) : Pc → Bool
  | .afterPollPt t' true => t' == t | _ => false
def pollingPc (t : Nat) : Pc → Bool
  | .takenPt t' => t' == t | .afterPollPt t' _ => t' == t | _ => false
def active : Pc → Bool
  | .done => false | .start => false | _ => true

structure Inv (cfg : Cfg) (s : St) : Prop where
  /-- a thread between taking a task and putting it back owns the (empty) slot -/
  owns : ∀ t r, pollingPc t (s.pc r) = true → s.slot t = .taken r
  /-- an empty slot always has its holder -/
  back : ∀ t r0, s.slot t = .taken r0 → pollingPc t (s.pc r0) = true
  /-- no lost wake-up: an id sent for a task that is still in the slab is in the channel or in some thread's hand until
      a later slot-take (= a poll that starts after the wake) serves it -/
  wake : ∀ t, s.pend t = true → s.slot t = .removed ∨ t ∈ s.queue ∨ ∃ r, holdsId t (s.pc r) = true
  /-- ids in the channel always have a thread that will still look at the channel -/
  live : s.queue ≠ [] → ∃ r, active (s.pc r) = true
  /-- no lost response: a task all of whose requests are resolved is gone, or a wake-up for it is on its way, or a poll
      that will see all results is about to run / has just completed it -/
  resp : ∀ t, cfg.needs t ≠ [] → s.slot t ≠ .removed → (∀ q ∈ cfg.needs t, s.resolved q = true) →
    s.pend t = true ∨ (∃ r, atWake t (s.pc r) = true) ∨ (∃ r, atTaken t (s.pc r) = true) ∨
      (∃ r, atDoneTrue t (s.pc r) = true)

theorem inv_init (cfg : Cfg) (n : Nat) : Inv cfg (init n) := by
  refine ⟨?_, ?_, ?_, ?_, ?_⟩
  · intro t r h; simp only [init] at h; split at h <;> simp [pollingPc] at h
  · intro t r0 h; simp [init] at h
  · intro t h; simp [init] at h
  · intro h; simp [init] at h
  · intro t hne _ hall
    cases hn : cfg.needs t with
    | nil => exact absurd hn hne
    | cons q qs => have := hall q (by simp [hn]); simp [init] at this

theorem ex_cases {P : Pc → Bool} {pc : Nat → Pc} (r : Nat) (v : Pc) (h : ∃ r', P (pc r') = true) :
    P (pc r) = true ∨ ∃ r', P (upd pc r v r') = true := by
  obtain ⟨r', h⟩ := h
  by_cases e : r' = r
  · exact .inl (e ▸ h)
  · exact .inr ⟨r', by rw [upd_other _ _ _ _ e]; exact h⟩

theorem ex_self {P : Pc → Bool} (pc : Nat → Pc) (r : Nat) {v : Pc} (h : P v = true) : ∃ r', P (upd pc r v r') = true :=
  ⟨r, by rw [upd_self]; exact h⟩

/-- Locality. Thread `r` moves from pc `p` to `v`; the other components of the new state are arbitrary. Each clause has to
    survive only as far as `r` is concerned: a witness among the other threads is still one after the step, so the old
    clause may be assumed, and the new one shown, with `r` as the only thread. Where a component is unchanged and `p`, `v`
    fall under the same case of the predicate involved, old and new clause agree up to unfolding; that is the default. -/
theorem inv_local {cfg : Cfg} {s : St} {r : Nat} {p v : Pc} {queue' : List Nat} {slot' : Nat → SlotSt}
    {pend' resolved' : Nat → Bool} {polls' : Nat → Nat} (h : Inv cfg s) (hp : s.pc r = p)
    (hmine : ∀ t, (s.slot t = .taken r ↔ pollingPc t p = true) → (slot' t = .taken r ↔ pollingPc t v = true) := by
      exact fun _ => id)
    (hothers : ∀ t r', r' ≠ r → (slot' t = .taken r' ↔ s.slot t = .taken r') := by exact fun _ _ _ => .rfl)
    (hwake : ∀ t, (s.pend t = true → s.slot t = .removed ∨ t ∈ s.queue ∨ holdsId t p = true) →
      pend' t = true → slot' t = .removed ∨ t ∈ queue' ∨ holdsId t v = true := by exact fun _ => id)
    (hlive : queue' ≠ [] → active v = true ∨ s.queue ≠ [] ∧ active p = false := by exact fun _ => .inl rfl)
    (hresp : ∀ t,
      (s.slot t ≠ .removed → (∀ q ∈ cfg.needs t, s.resolved q = true) →
        s.pend t = true ∨ atWake t p = true ∨ atTaken t p = true ∨ atDoneTrue t p = true) →
      slot' t ≠ .removed → (∀ q ∈ cfg.needs t, resolved' q = true) →
        pend' t = true ∨ atWake t v = true ∨ atTaken t v = true ∨ atDoneTrue t v = true := by exact fun _ => id) :
    Inv cfg { queue := queue', slot := slot', pend := pend', resolved := resolved', pc := upd s.pc r v, polls := polls' } := by
  subst hp
  have hr (t : Nat) : s.slot t = .taken r ↔ pollingPc t (s.pc r) = true := ⟨h.back t r, h.owns t r⟩
  refine ⟨?_, ?_, ?_, ?_, ?_⟩
  · intro t r' (hpoll : pollingPc t (upd s.pc r v r') = true)
    show slot' t = .taken r'
    by_cases e : r' = r
    · subst e; rw [upd_self] at hpoll; exact (hmine t (hr t)).mpr hpoll
    · rw [upd_other _ _ _ _ e] at hpoll; exact (hothers t r' e).mpr (h.owns t r' hpoll)
  · intro t r0 (hs : slot' t = .taken r0)
    show pollingPc t (upd s.pc r v r0) = true
    by_cases e : r0 = r
    · subst e; rw [upd_self]; exact (hmine t (hr t)).mp hs
    · rw [upd_other _ _ _ _ e]; exact h.back t r0 ((hothers t r0 e).mp hs)
  · intro t (hpend : pend' t = true)
    show slot' t = .removed ∨ t ∈ queue' ∨ ∃ r', holdsId t (upd s.pc r v r') = true
    by_cases ho : ∃ r', holdsId t (upd s.pc r v r') = true
    · exact .inr (.inr ho)
    · refine (hwake t (fun hp0 => ?_) hpend).imp_right (.imp_right (ex_self _ _))
      exact (h.wake t hp0).imp_right (.imp_right fun a => (ex_cases r v a).resolve_right ho)
  · intro (hne : queue' ≠ [])
    show ∃ r', active (upd s.pc r v r') = true
    rcases hlive hne with hv | ⟨hq, hp⟩
    · exact ex_self _ _ hv
    · exact (ex_cases r v (h.live hq)).resolve_left (by rw [hp]; nofun)
  · intro t hn (hs : slot' t ≠ .removed) (hall : ∀ q ∈ cfg.needs t, resolved' q = true)
    show pend' t = true ∨ (∃ r', atWake t (upd s.pc r v r') = true) ∨ (∃ r', atTaken t (upd s.pc r v r') = true) ∨
      ∃ r', atDoneTrue t (upd s.pc r v r') = true
    by_cases ho : (∃ r', atWake t (upd s.pc r v r') = true) ∨ (∃ r', atTaken t (upd s.pc r v r') = true) ∨
      ∃ r', atDoneTrue t (upd s.pc r v r') = true
    · exact .inr ho
    · rw [not_or, not_or] at ho
      refine (hresp t (fun hs0 hall0 => ?_) hs hall).imp_right
        (.imp (ex_self _ _) (.imp (ex_self _ _) (ex_self _ _)))
      exact (h.resp t hn hs0 hall0).imp_right (.imp (fun a => (ex_cases r v a).resolve_right ho.1)
        (.imp (fun a => (ex_cases r v a).resolve_right ho.2.1) fun a => (ex_cases r v a).resolve_right ho.2.2))

theorem inv_step (cfg : Cfg) (hcfg : cfg.Ok) (r : Nat) (s : St) (h : Inv cfg s) : Inv cfg (step cfg r s) := by
  cases hpc : s.pc r with
  | start =>
    simp only [step, hpc]
    split
    · exact inv_local h hpc (hlive := fun hq => .inr ⟨hq, rfl⟩)
    · refine inv_local h hpc (hresp := ?_)
      intro t old hs hall
      by_cases hq : cfg.target r ∈ cfg.needs t
      · exact .inr (.inl (beq_iff_eq.mpr (hcfg t _ hq)))
      · have hall0 : ∀ q ∈ cfg.needs t, s.resolved q = true := fun q hq' => by
          have := hall q hq'
          rwa [upd_other _ _ _ _ (fun e : q = cfg.target r => hq (e ▸ hq'))] at this
        rcases old hs hall0 with a | ⟨⟨⟩⟩ | ⟨⟨⟩⟩ | ⟨⟨⟩⟩
        · exact .inl a
  | wakePt t0 =>
    simp only [step, hpc]
    refine inv_local h hpc (hwake := ?_) (hresp := ?_)
    · intro t old hp
      by_cases e : t = t0
      · exact .inr (.inl (by simp [e]))
      · rw [upd_other _ _ _ _ e] at hp
        rcases old hp with a | a | ⟨⟨⟩⟩
        · exact .inl a
        · exact .inr (.inl (List.mem_append_left _ a))
    · intro t old hs hall
      rcases old hs hall with a | a | ⟨⟨⟩⟩ | ⟨⟨⟩⟩
      · exact .inl (by simp [upd, a])
      · exact .inl (by rw [← beq_iff_eq.mp a, upd_self])
  | loopTop d =>
    simp only [step, hpc]
    split
    next t0 q0 hqu =>
      refine inv_local h hpc (hwake := ?_)
      intro t old hp
      rcases old hp with a | a | ⟨⟨⟩⟩
      · exact .inl a
      · rw [hqu] at a
        rcases List.mem_cons.mp a with e | a
        · exact .inr (.inr (beq_iff_eq.mpr e.symm))
        · exact .inr (.inl a)
    next hqu =>
      split
      · exact inv_local h hpc
      · exact inv_local h hpc (hlive := fun hq => absurd hqu hq)
  | hand t0 d =>
    simp only [step, hpc]
    split
    next hsl =>
      refine inv_local h hpc (hwake := ?_)
      intro t old hp
      rcases old hp with a | a | a
      · exact .inl a
      · exact .inr (.inl a)
      · exact .inl (beq_iff_eq.mp a ▸ hsl)
    next hsl =>
      refine inv_local h hpc (hmine := ?_) (hothers := ?_) (hwake := ?_) (hresp := ?_)
      · intro t hr
        by_cases e : t = t0
        · rw [e, upd_self]; exact ⟨fun _ => beq_self_eq_true t0, fun _ => rfl⟩
        · rw [upd_other _ _ _ _ e]
          exact ⟨fun a => (nomatch hr.mp a), fun a => absurd (beq_iff_eq.mp a).symm e⟩
      · intro t r' e'
        by_cases e : t = t0
        · rw [e, upd_self, hsl]; exact ⟨fun a => absurd (SlotSt.taken.inj a).symm e', fun a => (nomatch a)⟩
        · rw [upd_other _ _ _ _ e]
      · intro t old hp
        by_cases e : t = t0
        · rw [e, upd_self] at hp; cases hp
        · rw [upd_other _ _ _ _ e] at hp ⊢
          rcases old hp with a | a | a
          · exact .inl a
          · exact .inr (.inl a)
          · exact absurd (beq_iff_eq.mp a).symm e
      · intro t old hs hall
        by_cases e : t = t0
        · exact .inr (.inr (.inl (beq_iff_eq.mpr e.symm)))
        · rw [upd_other _ _ _ _ e] at hs ⊢
          rcases old hs hall with a | ⟨⟨⟩⟩ | ⟨⟨⟩⟩ | ⟨⟨⟩⟩
          · exact .inl a
    next r0 hsl =>
      exact inv_local h hpc
  | takenPt t0 =>
    simp only [step, hpc]
    refine inv_local h hpc (hresp := ?_)
    intro t old hs hall
    rcases old hs hall with a | ⟨⟨⟩⟩ | a | ⟨⟨⟩⟩
    · exact .inl a
    · have e : t0 = t := beq_iff_eq.mp a
      have hc : (cfg.needs t0).all s.resolved = true := List.all_eq_true.mpr (e ▸ hall)
      exact .inr (.inr (.inr (by rw [hc]; exact a)))
  | afterPollPt t0 c =>
    simp only [step, hpc]
    have hown0 : s.slot t0 = .taken r := h.owns t0 r (by rw [hpc]; exact beq_self_eq_true t0)
    have hx : ∀ r', (if c = true then SlotSt.removed else .present) ≠ .taken r' := by cases c <;> nofun
    have hne : ∀ t, s.slot t = .removed → t ≠ t0 := fun t a e => by rw [e, hown0] at a; cases a
    refine inv_local h hpc (hmine := ?_) (hothers := ?_) (hwake := ?_) (hresp := ?_)
    · intro t hr
      refine ⟨fun a => ?_, fun a => nomatch a⟩
      by_cases e : t = t0
      · rw [e, upd_self] at a; exact absurd a (hx r)
      · rw [upd_other _ _ _ _ e] at a; exact absurd (beq_iff_eq.mp (hr.mp a)).symm e
    · intro t r' e'
      by_cases e : t = t0
      · rw [e, upd_self, hown0]
        exact ⟨fun a => absurd a (hx r'), fun a => absurd (SlotSt.taken.inj a).symm e'⟩
      · rw [upd_other _ _ _ _ e]
    · intro t old hp
      rcases old hp with a | a | ⟨⟨⟩⟩
      · exact .inl (by rw [upd_other _ _ _ _ (hne t a)]; exact a)
      · exact .inr (.inl a)
    · intro t old hs hall
      have hs0 : s.slot t ≠ .removed := fun a => by rw [upd_other _ _ _ _ (hne t a)] at hs; exact hs a
      rcases old hs0 hall with a | ⟨⟨⟩⟩ | ⟨⟨⟩⟩ | a
      · exact .inl a
      · cases c
        · cases a
        · rw [← beq_iff_eq.mp a, upd_self] at hs; exact absurd rfl hs
  | requeuePt t0 d =>
    simp only [step, hpc]
    refine inv_local h hpc (hwake := ?_)
    intro t old hp
    rcases old hp with a | a | a
    · exact .inl a
    · exact .inr (.inl (List.mem_append_left _ a))
    · exact .inr (.inl (List.mem_append_right _ (by rw [beq_iff_eq.mp a]; exact List.mem_singleton_self t)))
  | done =>
    simp only [step, hpc]
    exact h

theorem inv_run (cfg : Cfg) (hcfg : cfg.Ok) : ∀ (sched : List Nat) (s : St), Inv cfg s → Inv cfg (run cfg sched s)
  | [], _, h => h
  | r :: rest, s, h => by
    simp only [run, List.foldl_cons]
    exact inv_run cfg hcfg rest (step cfg r s) (inv_step cfg hcfg r s h)

end M.Slot
