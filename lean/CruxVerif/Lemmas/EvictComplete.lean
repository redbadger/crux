/- Completeness of eviction, one request: a task whose request was dropped is evicted by its next poll. -/
import CruxVerif.Lemmas.K2Evict
namespace M.Rt

theorem holders_modLeaf (w : World) (l : Nat) (g : Leaf → Leaf) (hg : ∀ lf, (g lf).waker = lf.waker) (s : Nat) :
    (w.modLeaf l g).holders s = w.holders s := by
  unfold World.holders World.modLeaf
  simp only
  rw [filter_modifyNth_length (fun lf : Leaf => isSerial s lf.waker) g (by intro a; simp [hg a])]

theorem holders_modCmd (w : World) (c : Nat) (g : CmdSt → CmdSt) (hg : ∀ x, (g x).waker = x.waker) (s : Nat) :
    (w.modCmd c g).holders s = w.holders s := by
  unfold World.holders World.modCmd
  simp only
  rw [filter_modifyNth_length (fun x : CmdSt => isSerial s x.waker) g (by intro a; simp [hg a])]

theorem poll_dropped_request (pn : Waker → Nat → World → Option (NextRes × World)) (f : Nat) (wk : Waker) (sink : Sink)
    (env : Env) (x l : Nat) (rest : List Instr) (w : World) (hq : (w.leaf l).queue = [])
    (hs : (w.leaf l).senderAlive = false) (hl : (w.leaf l).legacy = false) :
    pollBlock pn (f + 1) wk sink (.mk env (.req x l) rest) w = some (.pending (.mk env .reqDead rest), w.dropReceiver l) := by
  conv => lhs; unfold pollBlock
  simp [hq, hs, hl]

theorem holders_parkTask (cid tid : Nat) (t : Task) (s : Nat) (b : Block) (w1 : World) (s' : Nat) :
    (parkTask cid tid t s b w1).holders s' = w1.holders s' :=
  holders_modCmd w1 cid _ (by intro; rfl) s'

/-- **Eviction is complete for a dropped request**: a task suspended at a one-shot request whose `Request` the shell has
    dropped is discarded (`Cancelled`) by its next poll — provided the poll's fresh waker serial is indeed fresh (held nowhere,
    not flagged; `nextSerial` is a counter) and the task has not been aborted. -/
theorem dropped_request_evicts (pn : Waker → Nat → World → Option (NextRes × World)) (f : Nat) (cid tid : Nat) (w : World)
    (t : Task) (env : Env) (x l : Nat) (rest : List Instr)
    (hg : (w.cmd cid).tasks.get? tid = some t) (hfut : t.fut = .mk env (.req x l) rest)
    (hab : (w.getMeta t.serial).aborted = false)
    (hq : (w.leaf l).queue = []) (hs : (w.leaf l).senderAlive = false) (hl : (w.leaf l).legacy = false)
    (hfresh : w.holders w.nextSerial = 0) (hnw : w.woken.contains w.nextSerial = false) :
    (runTaskF (pollBlock pn (f + 1)) cid tid w).map (·.1) = some .cancelled := by
  have hp := poll_dropped_request pn f (.task cid tid w.nextSerial) (.cmd cid) env x l rest
    { w with nextSerial := w.nextSerial + 1 } hq hs hl
  rw [← hfut] at hp
  rw [runTaskF_pending _ cid tid w t _ _ hg hab hp, holders_parkTask]
  -- the poll only dropped the receiver: no waker slot, no `woken` flag changed
  have h1 : (({ w with nextSerial := w.nextSerial + 1 } : World).dropReceiver l).holders w.nextSerial = 0 :=
    (holders_modLeaf _ l _ (by intro; rfl) w.nextSerial).trans hfresh
  have h2 : (({ w with nextSerial := w.nextSerial + 1 } : World).dropReceiver l).woken.contains w.nextSerial = false := hnw
  rw [if_pos (by simp only [Bool.and_eq_true, Bool.not_eq_true', beq_iff_eq]; exact ⟨h2, h1⟩)]
  rfl

end M.Rt
