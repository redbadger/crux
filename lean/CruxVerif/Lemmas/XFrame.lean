/-
The Core-side queues (executor spawn queue, effect channel, event channel) are untouched by everything that happens
inside a command: polls with a command sink at every nesting depth, run_task, run_until_settled, poll_next, drops, wakes.
Only the Core's own spawner / legacy tasks write them.
-/
import CruxVerif.Lemmas.GRun
import CruxVerif.Lemmas.PollFrame
namespace M.Rt

/-- the Core-side queues of a world -/
def X (w : World) : List ExecTask × List Eff × List Ev := (w.execSpawn, w.coreEffects, w.coreEvents)

@[simp] theorem X_modCmd (w : World) (c : Nat) (f : CmdSt → CmdSt) : X (w.modCmd c f) = X w := rfl
@[simp] theorem X_modLeaf (w : World) (c : Nat) (f : Leaf → Leaf) : X (w.modLeaf c f) = X w := rfl
@[simp] theorem X_modMeta (w : World) (c : Nat) (f : Meta → Meta) : X (w.modMeta c f) = X w := rfl
@[simp] theorem X_newLeaf (w : World) (k : Option Waker) (lg : Bool) : X (w.newLeaf k lg).2 = X w := rfl
@[simp] theorem X_newMeta (w : World) : X w.newMeta.2 = X w := rfl
@[simp] theorem X_pushEffect (w : World) (c : Nat) (e : Eff) : X (w.pushEffect c e) = X w := rfl
@[simp] theorem X_pushEvent (w : World) (c : Nat) (e : Ev) : X (w.pushEvent c e) = X w := rfl
@[simp] theorem X_sinkEffect (w : World) (c : Nat) (e : Eff) : X (w.sinkEffect (.cmd c) e) = X w := rfl
@[simp] theorem X_sinkEvent (w : World) (c : Nat) (e : Ev) : X (w.sinkEvent (.cmd c) e) = X w := rfl
@[simp] theorem X_dropReceiver (w : World) (l : Nat) : X (w.dropReceiver l) = X w := rfl
@[simp] theorem X_forward (w : World) (c : Nat) (o : Output) : X (w.forward c o) = X w := by cases o <;> rfl

@[simp] theorem X_wake (f : Nat) (wk : Waker) (w : World) : X (wake f wk w) = X w :=
  wake_inv (J := fun w1 => X w1 = X w) (fun _ _ _ h => h) (fun _ _ h => h) (fun _ _ h => h) (fun _ _ h => h)
    (fun _ _ h => h) f wk w rfl

@[simp] theorem X_World_wake (w : World) (wk : Waker) : X (w.wake wk) = X w := X_wake _ wk w

@[simp] theorem X_abortCmd (w : World) (c : Nat) : X (w.abortCmd c) = X w :=
  World.abortCmd_inv (J := fun w1 => X w1 = X w) (fun _ _ h => h) (fun _ h => h) (fun w1 wk h => (X_World_wake w1 wk).trans h) w rfl

@[simp] theorem X_dropSender (w : World) (l : Nat) : X (w.dropSender l) = X w :=
  World.dropSender_inv (J := fun w1 => X w1 = X w) (fun _ h => h) (fun _ h => h) (fun w1 wk h => (X_World_wake w1 wk).trans h) w rfl

theorem X_dropPend (dc : Nat → World → World) (hdc : ∀ c w, X (dc c w) = X w) : (p : Pend) → (w : World) → X (dropPend dc p w) = X w :=
  fun p w => dropPend_inv (J := fun w1 => X w1 = X w) (fun c w1 h => (hdc c w1).trans h) (fun _ _ h => h) p w rfl

theorem X_drop (w : World) :
    (∀ w1 c, X w1 = X w → X (w1.dropCmd c) = X w) ∧ (∀ w1 b, X w1 = X w → X (w1.dropBlock b) = X w) ∧
      (∀ w1 t, X w1 = X w → X (w1.dropTask t) = X w) :=
  World.drop_inv (J := fun w1 => X w1 = X w) (fun _ _ h => h) (fun _ _ h => h) (fun w1 l h => (X_dropSender w1 l).trans h)
    (fun _ _ h => h) (fun _ _ h => h)

@[simp] theorem X_World_dropCmd (w : World) (c : Nat) : X (w.dropCmd c) = X w := (X_drop w).1 w c rfl
@[simp] theorem X_World_dropBlock (w : World) (b : Block) : X (w.dropBlock b) = X w := (X_drop w).2.1 w b rfl
@[simp] theorem X_World_dropTask (w : World) (t : Task) : X (w.dropTask t) = X w := (X_drop w).2.2 w t rfl

def PnX (pn : Waker → Nat → World → Option (NextRes × World)) : Prop :=
  ∀ wk c w r w', pn wk c w = some (r, w') → X w' = X w

theorem hostLoop_x (pn) (hpn : PnX pn) (f : Nat) (wk : Waker) (me c : Nat) (m : Mapper) (w : World) (d : Bool) (w' : World)
    (h : hostLoop pn f wk me c m w = some (d, w')) : X w' = X w :=
  hostLoop_inv (J := fun w1 => X w1 = X w) (fun w1 r w2 hp k => (hpn wk c w1 r w2 hp).trans k)
    (fun w1 o k => (X_forward w1 me o).trans k) f w d w' h rfl

/-- no step of a poll with a command sink writes the Core-side queues -/
theorem x_hostOps (pn) (hpn : PnX pn) (wk : Waker) (p : Nat) (w0 : World) :
    HostOps pn (fun _ => True) wk (.cmd p) (fun _ => True) (X · = X w0) where
  event w e h := (X_sinkEvent w p e).trans h
  effect w e h := (X_sinkEffect w p e).trans h
  newLeaf _ _ h := ⟨h, trivial⟩
  spawn _ _ _ _ _ _ h := h
  legacy _ _ _ hs := nomatch hs
  handoff _ _ _ _ _ _ _ _ _ _ _ h := h
  legacyHandoff _ _ _ _ _ _ _ _ hs := nomatch hs
  abortTask _ _ _ _ _ _ h := h
  abortCmd w c _ _ _ _ h := (X_abortCmd w c).trans h
  dropReceiver _ _ _ h := h
  setWaker _ _ _ _ h := h
  setQueue _ _ _ _ h := h
  join _ _ _ _ _ h := h
  wake w h := (X_World_wake w wk).trans h
  host f w me c m d w' _ _ _ _ hl h := (hostLoop_x pn hpn f wk me c m w d w' hl).trans h
  dropCmd w c _ _ _ _ h := (X_World_dropCmd w c).trans h
  dropBlock w b _ _ h := (X_World_dropBlock w b).trans h

def PollX (poll : Waker → Sink → Block → World → Option (PollRes × World)) : Prop :=
  ∀ wk p b w r w', poll wk (.cmd p) b w = some (r, w') → X w' = X w

theorem pollBlock_xgood (pn) (hpn : PnX pn) (f : Nat) : PollX (pollBlock pn f) := fun wk p b w r w' h =>
  (pollBlock_inv_blocks pn true_pollClass (x_hostOps pn hpn wk p w) f b w r w' h trivial (fun _ _ => trivial) rfl).1

def RunX (runTask : Nat → Nat → World → Option (TaskState × World)) : Prop :=
  ∀ c tid w st w', runTask c tid w = some (st, w') → X w' = X w
def SettleX (settle : Nat → World → Option World) : Prop :=
  ∀ c w w', settle c w = some w' → X w' = X w

@[simp] theorem X_nextSerial (w : World) (n : Nat) : X ({ w with nextSerial := n } : World) = X w := rfl

theorem runTaskF_x (poll) (hp : PollX poll) : RunX (runTaskF poll) := fun _ _ w _ _ h =>
  runTaskF_ind (Q := fun _ w' => X w' = X w) (fun _ => rfl) (fun _ _ _ => rfl) (fun _ _ _ _ _ hpoll => (hp _ _ _ _ _ _ hpoll).trans (X_nextSerial w _))
    (fun _ _ w1 _ _ hpoll =>
      -- parking the task writes its command's slab and `woken` only
      have k : X w1 = X w := (hp _ _ _ _ _ _ hpoll).trans (X_nextSerial w _)
      ⟨fun _ _ => k, fun _ => k⟩) h

@[simp] theorem X_spawnNewTasks (c : Nat) (w : World) : X (spawnNewTasks c w) = X w :=
  foldl_eq X _ (fun W _ => X_modCmd W c _) _ _

@[simp] theorem X_finishTask (c tid : Nat) (w : World) : X (finishTask c tid w) = X w :=
  finishTask_inv (J := fun w1 => X w1 = X w) (fun _ _ h => h) (fun _ _ h => h) (fun w1 wk h => (X_World_wake w1 wk).trans h)
    (fun w1 t _ h => (X_World_dropTask w1 t).trans h) rfl

theorem runUntilSettledF_x (runTask) (hr : RunX runTask) : SettleX (runUntilSettledF runTask) := by
  intro c w w' h
  refine runUntilSettledF_inv (J := fun w1 => X w1 = X w) ?_ (settleLoop_inv ?_ (drainReady_inv ?_ ?_ ?_)) w w' h rfl
  · exact fun w1 _ k => (foldl_eq X _ X_World_dropTask _ w1).trans k
  · exact fun w1 k => (X_spawnNewTasks c w1).trans k
  · exact fun w1 rest k => k
  · exact fun w1 tid st w2 hrt k => (hr c tid w1 st w2 hrt).trans k
  · exact fun w1 tid k => (X_finishTask c tid w1).trans k

theorem pollNextF_x (settle) (hs : SettleX settle) : PnX (pollNextF settle) := fun _ c w r w' h =>
  pollNextF_inv (J := fun w1 => X w1 = X w) (fun _ k => k) (fun w1 w2 h1 k => (hs c w1 w2 h1).trans k) (fun _ _ k => k)
    (fun _ _ k => k) w r w' h rfl

theorem pollAt_x : ∀ d, PollX (pollAt d) :=
  pollAt_ind (fun wk p b w r w' h => by cases h) fun poll hp =>
    pollBlock_xgood _ (pollNextF_x _ (runUntilSettledF_x _ (runTaskF_x _ hp))) loopFuel

theorem runTask_x : RunX runTask := runTaskF_x _ (pollAt_x depthFuel)
theorem runUntilSettled_x : SettleX runUntilSettled := runUntilSettledF_x _ runTask_x
theorem pollNext_x : PnX pollNext := pollNextF_x _ runUntilSettled_x

end M.Rt
