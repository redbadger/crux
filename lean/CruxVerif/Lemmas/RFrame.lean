/-
Well-formedness of stored blocks — a GLOBAL invariant: every leaf id and every join-handle id mentioned by any stored task
of any command exists (`inRangeB`). It is the hypothesis of the parking invariant K2 (C07 `evict_sound`), and it holds in
every reachable world, for ALL blocks (also those hosting commands): `runDirect_wf`, `WFC_ops`. This file: the two lengths
ids are measured against, the invariant `WFw`, and that the primitive operations and the drops keep both.
-/
import CruxVerif.Lemmas.GCore
namespace M.Rt

/-- the two lengths a block's ids are measured against -/
def LL (w : World) : Nat × Nat := (w.leaves.length, w.metas.length)

def LLe (a b : Nat × Nat) : Prop := a.1 ≤ b.1 ∧ a.2 ≤ b.2
theorem LLe.refl (a : Nat × Nat) : LLe a a := ⟨Nat.le_refl _, Nat.le_refl _⟩
theorem LLe.trans {a b c : Nat × Nat} (h1 : LLe a b) (h2 : LLe b c) : LLe a c := ⟨Nat.le_trans h1.1 h2.1, Nat.le_trans h1.2 h2.2⟩
theorem LLe.of_eq {a b : Nat × Nat} (h : b = a) : LLe a b := h ▸ LLe.refl a

@[simp] theorem LL_modCmd (w : World) (c : Nat) (f : CmdSt → CmdSt) : LL (w.modCmd c f) = LL w := rfl
@[simp] theorem LL_modLeaf (w : World) (c : Nat) (f : Leaf → Leaf) : LL (w.modLeaf c f) = LL w := by
  simp [LL, World.modLeaf, modifyNth_length]
@[simp] theorem LL_modMeta (w : World) (c : Nat) (f : Meta → Meta) : LL (w.modMeta c f) = LL w := by
  simp [LL, World.modMeta, modifyNth_length]
theorem LL_newLeaf (w : World) (k : Option Waker) (lg : Bool) : LL (w.newLeaf k lg).2 = ((LL w).1 + 1, (LL w).2) := by
  simp [LL, World.newLeaf]
theorem LL_newMeta (w : World) : LL w.newMeta.2 = ((LL w).1, (LL w).2 + 1) := by simp [LL, World.newMeta]
theorem LLe_newLeaf (w : World) (k : Option Waker) (lg : Bool) : LLe (LL w) (LL (w.newLeaf k lg).2) := by
  rw [LL_newLeaf]; exact ⟨Nat.le_succ _, Nat.le_refl _⟩
theorem LLe_newMeta (w : World) : LLe (LL w) (LL w.newMeta.2) := by rw [LL_newMeta]; exact ⟨Nat.le_refl _, Nat.le_succ _⟩
@[simp] theorem LL_sinkEffect (w : World) (s : Sink) (e : Eff) : LL (w.sinkEffect s e) = LL w := by cases s <;> rfl
@[simp] theorem LL_sinkEvent (w : World) (s : Sink) (e : Ev) : LL (w.sinkEvent s e) = LL w := by cases s <;> rfl
@[simp] theorem LL_dropReceiver (w : World) (l : Nat) : LL (w.dropReceiver l) = LL w := LL_modLeaf w l _
@[simp] theorem LL_forward (w : World) (c : Nat) (o : Output) : LL (w.forward c o) = LL w := by cases o <;> rfl
@[simp] theorem LL_execSpawn (w : World) (l : List ExecTask) : LL ({ w with execSpawn := l } : World) = LL w := rfl

@[simp] theorem LL_World_wake (w : World) (wk : Waker) : LL (w.wake wk) = LL w := by
  have h := wake_leaves (w.cmds.length + 1) wk w
  simp only [LL, World.wake, h.1, h.2]

@[simp] theorem LL_wakeAll (wks : List Waker) (w : World) : LL (w.wakeAll wks) = LL w :=
  foldl_inv_mem (J := fun W => LL W = LL w) wks w (fun W k _ hW => (LL_World_wake W k).trans hW) rfl

@[simp] theorem LL_abortCmd (w : World) (c : Nat) : LL (w.abortCmd c) = LL w :=
  World.abortCmd_inv (J := fun W => LL W = LL w) (fun W s h => (LL_modMeta W s _).trans h) (fun _ h => h)
    (fun W wk h => (LL_World_wake W wk).trans h) w rfl

@[simp] theorem LL_dropSender (w : World) (l : Nat) : LL (w.dropSender l) = LL w :=
  World.dropSender_inv (J := fun W => LL W = LL w) (fun W h => (LL_modLeaf W l _).trans h) (fun W h => (LL_modLeaf W l _).trans h)
    (fun W wk h => (LL_World_wake W wk).trans h) w rfl

theorem LL_dropPend (dc : Nat → World → World) (hdc : ∀ c w, LL (dc c w) = LL w) : (p : Pend) → (w : World) → LL (dropPend dc p w) = LL w :=
  fun p w => dropPend_inv (J := fun W => LL W = LL w) (fun c W h => (hdc c W).trans h)
    (fun W l h => (LL_dropReceiver W l).trans h) p w rfl

theorem LL_drops (n : Nat × Nat) :
    (∀ w c, LL w = n → LL (w.dropCmd c) = n) ∧ (∀ w b, LL w = n → LL (w.dropBlock b) = n) ∧
      (∀ w t, LL w = n → LL (w.dropTask t) = n) :=
  World.drop_inv (fun w l h => (LL_dropReceiver w l).trans h) (fun w s h => (LL_modMeta w s _).trans h)
    (fun w l h => (LL_dropSender w l).trans h) (fun _ _ h => h) (fun _ _ h => h)

@[simp] theorem LL_World_dropCmd (w : World) (c : Nat) : LL (w.dropCmd c) = LL w := (LL_drops (LL w)).1 w c rfl
@[simp] theorem LL_World_dropBlock (w : World) (b : Block) : LL (w.dropBlock b) = LL w := (LL_drops (LL w)).2.1 w b rfl
@[simp] theorem LL_World_dropTask (w : World) (t : Task) : LL (w.dropTask t) = LL w := (LL_drops (LL w)).2.2 w t rfl

theorem LL_resolveReq (r : Resolve) (v : Val) (w : World) : LL (resolveReq r v w).2.2 = LL w :=
  resolveReq_inv (J := fun W => LL W = LL w)
    (fun _ l _ _ h => World.deliver_inv (fun W h => (LL_modLeaf W l _).trans h) (fun W wk h => (LL_World_wake W wk).trans h) _ h)
    (fun W l h => (LL_dropSender W l).trans h) r v w rfl

def inR (n : Nat × Nat) (b : Block) : Prop := inRangeB n.1 n.2 b = true

theorem inR.mono {a b : Nat × Nat} (h : LLe a b) {bl : Block} (hb : inR a bl) : inR b bl := inRangeB_mono h.1 h.2 bl hb

/-- every stored task of every command is in range -/
structure WFw (w : World) : Prop where
  t : ∀ c, ∀ t ∈ (w.cmd c).tasks.values, inR (LL w) t.fut
  s : ∀ c, ∀ t ∈ (w.cmd c).spawnQ, inR (LL w) t.fut

theorem WFw.tk0 {w w' : World} (h : WFw w) (f : TK0 w w') (hl : LLe (LL w) (LL w')) : WFw w' :=
  ⟨fun c t ht => (h.t c t (by rw [← f.tasks c]; exact ht)).mono hl,
   fun c t ht => (f.spawn c t ht).elim (fun hm => (h.s c t hm).mono hl) (fun x => x.elim)⟩

theorem WFw.tk0_eq {w w' : World} (h : WFw w) (f : TK0 w w') (hl : LL w' = LL w) : WFw w' :=
  h.tk0 f (LLe.of_eq hl)

theorem WFw.same {w w' : World} (h : WFw w) (hc : w'.cmds = w.cmds) (hl : LL w' = LL w) : WFw w' := h.tk0_eq (tk_of_cmds hc) hl

theorem WFw.modCmd_gen {w : World} (h : WFw w) (c : Nat) (g : CmdSt → CmdSt)
    (hgt : ∀ x, ∀ t ∈ (g x).tasks.values, t ∈ x.tasks.values ∨ inR (LL w) t.fut)
    (hgs : ∀ x, ∀ t ∈ (g x).spawnQ, t ∈ x.spawnQ ∨ inR (LL w) t.fut) : WFw (w.modCmd c g) := by
  refine ⟨fun q t ht => ?_, fun q t ht => ?_⟩
  · rcases World.cmd_modCmd_cases w c g q with e | e <;> rw [e] at ht
    · exact h.t q t ht
    · exact (hgt _ t ht).elim (h.t q t) id
  · rcases World.cmd_modCmd_cases w c g q with e | e <;> rw [e] at ht
    · exact h.s q t ht
    · exact (hgs _ t ht).elim (h.s q t) id

theorem WFw.modCmd_sub {w : World} (h : WFw w) (c : Nat) (g : CmdSt → CmdSt)
    (hgt : ∀ x, ∀ t ∈ (g x).tasks.values, t ∈ x.tasks.values) (hgs : ∀ x, ∀ t ∈ (g x).spawnQ, t ∈ x.spawnQ) :
    WFw (w.modCmd c g) :=
  h.modCmd_gen c g (fun x t ht => Or.inl (hgt x t ht)) (fun x t ht => Or.inl (hgs x t ht))

theorem WFw.modCmd_same {w : World} (h : WFw w) (c : Nat) (g : CmdSt → CmdSt) (hgt : ∀ x, (g x).tasks = x.tasks)
    (hgs : ∀ x, (g x).spawnQ = x.spawnQ) : WFw (w.modCmd c g) :=
  h.tk0_eq (tk_modCmd w c g hgt hgs) rfl

/-! `yw_op`: the operation `op` keeps `WFw` -/

theorem yw_dropReceiver {w : World} (l : Nat) (h : WFw w) : WFw (w.dropReceiver l) :=
  h.tk0_eq (tk_dropReceiver w l) (LL_dropReceiver w l)

theorem yw_dropSender {w : World} (l : Nat) (h : WFw w) : WFw (w.dropSender l) :=
  h.tk0_eq (tk0_dropSender w l) (LL_dropSender w l)

theorem WFw_dropPend (dc : Nat → World → World) (hdc : ∀ c w, WFw w → WFw (dc c w)) : (p : Pend) → (w : World) → WFw w → WFw (dropPend dc p w) :=
  dropPend_inv hdc fun _ => yw_dropReceiver

theorem WFw_drops : (∀ w c, WFw w → WFw (w.dropCmd c)) ∧ (∀ w b, WFw w → WFw (w.dropBlock b)) ∧ (∀ w t, WFw w → WFw (w.dropTask t)) :=
  World.drop_inv (fun _ => yw_dropReceiver) (fun w s h => h.same rfl (LL_modMeta w s _)) (fun _ => yw_dropSender)
    (fun _ _ h => h.same rfl rfl)
    (fun w c h => h.modCmd_sub c _ (fun x t ht => by simp [Slab.values] at ht) (fun x t ht => by cases ht))

theorem yw_dropCmd {w : World} (c : Nat) (h : WFw w) : WFw (w.dropCmd c) := WFw_drops.1 w c h
theorem yw_dropBlock {w : World} (b : Block) (h : WFw w) : WFw (w.dropBlock b) := WFw_drops.2.1 w b h
theorem yw_dropTask {w : World} (t : Task) (h : WFw w) : WFw (w.dropTask t) := WFw_drops.2.2 w t h

end M.Rt
