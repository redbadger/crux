/-
In-range-ness through one poll of ANY block, hosts included: what a poll does to the world is one relation `RStep`, extended
operation by operation, and `grind` makes the case analysis of `pollBlock` over that.
-/
import CruxVerif.Lemmas.RFrame
namespace M.Rt

/-- what a step does to well-formedness: it is kept, and neither length shrinks -/
def WStep (w w' : World) : Prop := WFw w' ∧ LLe (LL w) (LL w')

theorem WStep.refl {w : World} (h : WFw w) : WStep w w := ⟨h, LLe.refl _⟩
theorem WStep.step {w w1 w2 : World} (k : WStep w w1) (h : WFw w1 → WStep w1 w2) : WStep w w2 :=
  ⟨(h k.1).1, k.2.trans (h k.1).2⟩
theorem WStep.eq {w w1 w2 : World} (k : WStep w w1) (h : WFw w1 → WFw w2) (hl : LL w2 = LL w1) : WStep w w2 :=
  k.step fun h1 => ⟨h h1, LLe.of_eq hl⟩
theorem WStep.modCmd_same {w w1 : World} (k : WStep w w1) (c : Nat) (g : CmdSt → CmdSt) (hgt : ∀ x, (g x).tasks = x.tasks)
    (hgs : ∀ x, (g x).spawnQ = x.spawnQ) : WStep w (w1.modCmd c g) :=
  k.eq (fun h => h.modCmd_same c g hgt hgs) rfl

def PnW (pn : Waker → Nat → World → Option (NextRes × World)) : Prop :=
  ∀ wk c w r w', pn wk c w = some (r, w') → WFw w → WStep w w'

theorem yw_forward {w : World} (c : Nat) (o : Output) (h : WFw w) : WFw (w.forward c o) := by
  cases o <;> exact h.modCmd_same c _ (fun _ => rfl) (fun _ => rfl)

section
variable {w : World}
theorem yw_sinkEvent (s : Sink) (e : Ev) (h : WFw w) : WFw (w.sinkEvent s e) := h.tk0_eq (tk_sinkEvent w s e) (LL_sinkEvent w s e)
theorem yw_sinkEffect (s : Sink) (e : Eff) (h : WFw w) : WFw (w.sinkEffect s e) := h.tk0_eq (tk_sinkEffect w s e) (LL_sinkEffect w s e)
theorem yw_newMeta (h : WFw w) : WFw w.newMeta.2 := h.tk0 (tk_of_cmds rfl) (LLe_newMeta w)
theorem yw_wake (wk : Waker) (h : WFw w) : WFw (w.wake wk) := h.tk0_eq (tk_World_wake w wk) (LL_World_wake w wk)
theorem yw_abortCmd (c : Nat) (h : WFw w) : WFw (w.abortCmd c) := h.tk0_eq (tk_abortCmd w c) (LL_abortCmd w c)
theorem yw_spawn (c : Nat) (t : Task) (h : WFw w) (ht : inRangeB (LL w).1 (LL w).2 t.fut = true) : WFw (w.modCmd c (addSpawn t)) := by
  refine h.modCmd_gen c _ ?_ ?_
  · intro x t' ht'; exact Or.inl ht'
  · intro x t' ht'
    simp only [addSpawn, List.mem_append, List.mem_singleton] at ht'
    rcases ht' with h' | rfl
    · exact Or.inl h'
    · exact Or.inr ht
end

def rangeRes (w' : World) : PollRes → Prop
  | .pending b' => inRangeB (LL w').1 (LL w').2 b' = true
  | .ready env' => envOk (LL w').2 env' = true

/-- a legacy task whose block is in range -/
def legacyR (n m : Nat) : ExecTask → Prop
  | .legacy b => inRangeB n m b = true
  | .cmd _ => False
theorem legacyR_mono {n m n' m' : Nat} {t : ExecTask} (h : legacyR n m t) (h1 : n ≤ n') (h2 : m ≤ m') : legacyR n' m' t := by
  cases t with
  | cmd c => exact h
  | legacy b => exact inRangeB_mono h1 h2 b h

/-- whatever the poll added to the executor's spawn queue is a legacy task in range -/
def spawnR (w w' : World) : Prop := ∀ t, t ∈ w'.execSpawn → t ∈ w.execSpawn ∨ legacyR (LL w').1 (LL w').2 t

def PollW (poll : Waker → Sink → Block → World → Option (PollRes × World)) : Prop :=
  ∀ wk sink b w r w', poll wk sink b w = some (r, w') → WFw w → inRangeB (LL w).1 (LL w).2 b = true →
    WStep w w' ∧ rangeRes w' r ∧ spawnR w w'

/-- What a poll has done to the world so far, as one relation that `grind` extends operation by operation without looking
    inside: no arithmetic on the lengths and no membership in the spawn queue reaches it. -/
structure RStep (w w' : World) : Prop where
  ws : WStep w w'
  sp : spawnR w w'

namespace RStep
variable {w w1 w2 : World}

theorem refl (h : WFw w) : RStep w w := ⟨.refl h, fun _ => Or.inl⟩
theorem trans (k1 : RStep w w1) (k2 : RStep w1 w2) : RStep w w2 :=
  ⟨k1.ws.step fun _ => k2.ws, fun t ht => (k2.sp t ht).elim
    (fun h1 => (k1.sp t h1).imp_right fun hr => legacyR_mono hr k2.ws.2.1 k2.ws.2.2) Or.inr⟩
theorem keep (k : RStep w w1) (h : WFw w1 → WStep w1 w2) (he : w2.execSpawn = w1.execSpawn) : RStep w w2 :=
  k.trans ⟨h k.ws.1, fun _ ht => Or.inl (he ▸ ht)⟩
theorem same (k : RStep w w1) (h : WFw w1 → WFw w2) (hl : LL w2 = LL w1) (he : w2.execSpawn = w1.execSpawn) : RStep w w2 :=
  k.keep (fun h1 => ⟨h h1, LLe.of_eq hl⟩) he

variable (k : RStep w w1)
include k
theorem wf : WFw w1 := k.ws.1
theorem mono (b : Block) (h : inRangeB (LL w).1 (LL w).2 b = true) : inRangeB (LL w1).1 (LL w1).2 b = true :=
  inRangeB_mono k.ws.2.1 k.ws.2.2 b h
theorem mono_env (env : Env) (h : envOk (LL w).2 env = true) : envOk (LL w1).2 env = true := envOk_mono k.ws.2.2 env h
theorem mono_leaf (l : Nat) (h : l < (LL w).1) : l < (LL w1).1 := Nat.lt_of_lt_of_le h k.ws.2.1
theorem mono_handle (s : Nat) (h : s < (LL w).2) : s < (LL w1).2 := Nat.lt_of_lt_of_le h k.ws.2.2

theorem sinkEvent (s : Sink) (e : Ev) : RStep w (w1.sinkEvent s e) := k.same (yw_sinkEvent s e) (LL_sinkEvent w1 s e) (by cases s <;> rfl)
theorem sinkEffect (s : Sink) (e : Eff) : RStep w (w1.sinkEffect s e) := k.same (yw_sinkEffect s e) (LL_sinkEffect w1 s e) (by cases s <;> rfl)
theorem newLeaf (wk : Option Waker) (lg : Bool) : RStep w (w1.newLeaf wk lg).2 :=
  k.keep (fun h => ⟨h.tk0 (tk_of_cmds rfl) (LLe_newLeaf w1 wk lg), LLe_newLeaf w1 wk lg⟩) rfl
theorem modLeaf (l : Nat) (f : Leaf → Leaf) : RStep w (w1.modLeaf l f) := k.same (·.same rfl (LL_modLeaf w1 l f)) (LL_modLeaf w1 l f) rfl
theorem modMeta (s : Nat) (f : Meta → Meta) : RStep w (w1.modMeta s f) := k.same (·.same rfl (LL_modMeta w1 s f)) (LL_modMeta w1 s f) rfl
theorem dropReceiver (l : Nat) : RStep w (w1.dropReceiver l) := k.modLeaf l _
theorem wake (wk : Waker) : RStep w (w1.wake wk) := k.same (yw_wake wk) (LL_World_wake w1 wk) (es_wake w1 wk)
theorem abortCmd (c : Nat) : RStep w (w1.abortCmd c) := k.same (yw_abortCmd c) (LL_abortCmd w1 c) (es_abortCmd w1 c)
theorem dropBlock (b : Block) : RStep w (w1.dropBlock b) := k.same (yw_dropBlock b) (LL_World_dropBlock w1 b) (es_dropBlock w1 b)
theorem dropCmd (c : Nat) : RStep w (w1.dropCmd c) := k.same (yw_dropCmd c) (LL_World_dropCmd w1 c) (es_dropCmd w1 c)
theorem spawn (c : Nat) (b : Block) (hb : inRangeB (LL w1).1 (LL w1).2 b = true) :
    RStep w (w1.newMeta.2.modCmd c (addSpawn ⟨w1.newMeta.1, b⟩)) :=
  (k.keep (fun h => ⟨yw_newMeta h, LLe_newMeta w1⟩) rfl).same (yw_spawn c _ · (inR.mono (LLe_newMeta w1) hb)) rfl rfl
theorem legacy (b : Block) (hb : inRangeB (LL w1).1 (LL w1).2 b = true) :
    RStep w ({ w1 with execSpawn := w1.execSpawn ++ [.legacy b] } : World) :=
  k.trans ⟨⟨k.wf.same rfl rfl, LLe.refl _⟩, fun t ht => (mem_es_spawn _ b t ht).elim Or.inl fun e => Or.inr (by rw [e]; exact hb)⟩
theorem hostLoop {pn} (hpn : PnW pn) (hpx : PnX pn) (f : Nat) (wk : Waker) (me c : Nat) (m : Mapper) (d : Bool)
    (e : hostLoop pn f wk me c m w1 = some (d, w2)) : RStep w w2 :=
  hostLoop_inv (J := RStep w) (fun w1 r w2 hp k => k.keep (hpn wk c w1 r w2 hp) (es_of_X (hpx wk c w1 r w2 hp)))
    (fun w1 o k => k.same (yw_forward me o) (LL_forward w1 me o) (es_of_X (X_forward w1 me o))) f w1 d w2 e k
end RStep

/-! the new ids are in range once the operation that uses them is done -/
theorem newLeaf_lt (w : World) (wk : Option Waker) (lg : Bool) (s : Sink) (e : Eff) :
    (w.newLeaf wk lg).1 < (LL ((w.newLeaf wk lg).2.sinkEffect s e)).1 := by
  rw [LL_sinkEffect, LL_newLeaf]; exact Nat.lt_succ_self _
theorem newMeta_lt (w : World) (c : Nat) (f : CmdSt → CmdSt) : w.newMeta.1 < (LL (w.newMeta.2.modCmd c f)).2 := by
  rw [LL_modCmd, LL_newMeta]; exact Nat.lt_succ_self _

/-- The outcome of a poll started in `w`.  Stated of the option, so that `grind` finds it by the poll alone. -/
def Polled (w : World) : Option (PollRes × World) → Prop
  | some (r, w') => RStep w w' ∧ rangeRes w' r
  | none => True

theorem Polled.via {w w1 : World} : ∀ {o}, Polled w1 o → RStep w w1 → Polled w o
  | none, _, _ => trivial
  | some _, p, k => ⟨k.trans p.1, p.2⟩

theorem pollBlock_polled (pn) (hpn : PnW pn) (hpx : PnX pn) (wk : Waker) (sink : Sink) :
    ∀ f b w, WFw w → inRangeB (LL w).1 (LL w).2 b = true → Polled w (pollBlock pn f wk sink b w)
  | 0, _, _, _, _ => by simp [pollBlock, Polled]
  | f + 1, .mk env cur rest, w, hw, hb => by
    have k0 := RStep.refl hw
    -- A poll from a world `w1` reached so far gives its outcome twice: from `w1`, along which what was in range at `w1`
    -- is still so at the end, and from `w`, to go on.  The goal asks for `RStep w (op w1)`; the lemma of `op` reduces that
    -- to `RStep w w1`, down to `k0`, so only steps from `w` are ever made.
    have via := fun b w1 (k : RStep w w1) hb =>
      have p := pollBlock_polled pn hpn hpx wk sink f b w1 k.wf hb
      And.intro p (p.via k)
    have hl := fun w1 w2 (k : RStep w w1) => k.hostLoop (w2 := w2) hpn hpx f wk
    unfold pollBlock
    simp only [addSpawn_eq]
    grind (gen := 20) (splits := 40) [Polled, → RStep.mono, → RStep.mono_env, → RStep.mono_leaf,
      → RStep.mono_handle, newLeaf_lt, newMeta_lt, RStep.sinkEvent, RStep.sinkEffect, RStep.newLeaf, RStep.modLeaf,
      RStep.modMeta, RStep.dropReceiver, RStep.wake, RStep.abortCmd, RStep.dropBlock, RStep.dropCmd, RStep.spawn, RStep.legacy,
      inRangeB, inRangeP, envOk_set, envOk_setHandle, envOk_handle, rangeRes]

theorem pollBlock_rgood (pn) (hpn : PnW pn) (hpx : PnX pn) (f : Nat) : PollW (pollBlock pn f) := fun wk sink b w r w' h hw hb =>
  have k : Polled w (some (r, w')) := h ▸ pollBlock_polled pn hpn hpx wk sink f b w hw hb
  ⟨k.1.ws, k.2, k.1.sp⟩

end M.Rt
