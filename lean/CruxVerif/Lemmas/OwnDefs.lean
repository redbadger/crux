/-
Ownership of request channels over whole runs, for a command whose tasks host no other command (every task program of
the DSL without combinators: any number of spawned tasks, joins, selects, streams, hand-offs).
`Own cid w`: every stored task of command `cid` (task slab and spawn queue) is host-free, every leaf channel is referenced
by AT MOST ONE of them, and no reference points beyond the existing leaves.
This file: the measure, and the frame `Fr` of operations that touch neither the slab nor the spawn queue.
-/
import CruxVerif.Lemmas.TasksFrame
import CruxVerif.Lemmas.Refs
namespace M.Rt

def taskRefs (t : Task) : List Nat := refsB t.fut

/-- references to leaf `l` held by the tasks `ts` -/
def cnt (l : Nat) (ts : List Task) : Nat := (ts.map fun t => (taskRefs t).count l).sum

def cmdCnt (l : Nat) (c : CmdSt) : Nat := cnt l c.tasks.values + cnt l c.spawnQ

theorem count_flatten_map (l : Nat) : ∀ (ts : List Task), ((ts.map fun t => refsB t.fut).flatten).count l = cnt l ts
  | [] => rfl
  | t :: ts => by
    simp only [List.map_cons, List.flatten_cons, List.count_append, cnt, List.sum_cons]
    have := count_flatten_map l ts
    simp only [cnt] at this
    rw [this]; rfl

theorem spawnRefs_cnt (cid : Nat) (w : World) (l : Nat) : (spawnRefs (.cmd cid) w).count l = cnt l (w.cmd cid).spawnQ :=
  count_flatten_map l _

theorem foldl_sum_le {α β : Type} (m : β → Nat) (k : α → Nat) {f : β → α → β} (h : ∀ b a, m (f b a) ≤ m b + k a) :
    ∀ (l : List α) (b : β), m (l.foldl f b) ≤ m b + (l.map k).sum
  | [], b => Nat.le_add_right _ _
  | a :: l, b => by
    have h1 := foldl_sum_le m k h l (f b a)
    have h2 := h b a
    simp only [List.foldl_cons, List.map_cons, List.sum_cons]
    omega

structure Own (cid : Nat) (w : World) : Prop where
  hft : ∀ t ∈ (w.cmd cid).tasks.values, hostFreeB t.fut = true
  hfs : ∀ t ∈ (w.cmd cid).spawnQ, hostFreeB t.fut = true
  one : ∀ l, cmdCnt l (w.cmd cid) ≤ 1
  rng : ∀ l, w.leaves.length ≤ l → cmdCnt l (w.cmd cid) = 0

/-- operations that touch neither task slabs nor (the references in) the spawn queue of `cid`, nor the number of leaves -/
structure Fr (cid : Nat) (w w' : World) : Prop where
  tk : TK w w'
  sr : spawnRefs (.cmd cid) w' = spawnRefs (.cmd cid) w
  len : w'.leaves.length = w.leaves.length

theorem Fr.refl (cid : Nat) (w : World) : Fr cid w w := ⟨TKp.refl w, rfl, rfl⟩
theorem Fr.trans {cid : Nat} {w1 w2 w3 : World} (h12 : Fr cid w1 w2) (h23 : Fr cid w2 w3) : Fr cid w1 w3 :=
  ⟨h12.tk.trans h23.tk, h23.sr.trans h12.sr, h23.len.trans h12.len⟩

theorem Fr.cmdCnt {cid : Nat} {w w' : World} (f : Fr cid w w') (l : Nat) : cmdCnt l (w'.cmd cid) = cmdCnt l (w.cmd cid) := by
  unfold M.Rt.cmdCnt
  rw [f.tk.tasks cid, ← spawnRefs_cnt, ← spawnRefs_cnt, f.sr]

theorem Own.frame {cid : Nat} {w w' : World} (h : Own cid w) (f : Fr cid w w') : Own cid w' := by
  refine ⟨?_, ?_, ?_, ?_⟩
  · rw [f.tk.tasks cid]; exact h.hft
  · intro t hm
    rcases f.tk.spawn cid t hm with hm | hm
    · exact h.hfs t hm
    · exact hm
  · intro l; rw [f.cmdCnt]; exact h.one l
  · intro l hl; rw [f.cmdCnt]; exact h.rng l (by rw [← f.len]; exact hl)

theorem fr_of_cmds {cid : Nat} {w w' : World} (hc : w'.cmds = w.cmds) (he : w'.execSpawn = w.execSpawn)
    (hl : w'.leaves.length = w.leaves.length) : Fr cid w w' := ⟨tk_of_cmds hc, sr_of_cmds hc he, hl⟩

theorem fr_modCmd (cid : Nat) (w : World) (c : Nat) (f : CmdSt → CmdSt) (hf : ∀ x, (f x).tasks = x.tasks)
    (hs : ∀ x, (f x).spawnQ = x.spawnQ) : Fr cid w (w.modCmd c f) :=
  ⟨tk_modCmd w c f hf hs, sr_modCmd _ w c f hs, rfl⟩

theorem fr_wake (cid : Nat) (w : World) (k : Waker) : Fr cid w (w.wake k) :=
  ⟨tk_World_wake w k, sr_World_wake _ w k, len_wake w k⟩

theorem fr_wakeAll (cid : Nat) (ks : List Waker) (w : World) : Fr cid w (w.wakeAll ks) :=
  foldl_inv_mem (J := Fr cid w) ks w (fun W k _ h => h.trans (fr_wake cid W k)) (Fr.refl cid w)

theorem fr_modLeaf (cid : Nat) (w : World) (l : Nat) (f : Leaf → Leaf) : Fr cid w (w.modLeaf l f) :=
  fr_of_cmds rfl rfl (len_modLeaf w l f)

theorem fr_modMeta (cid : Nat) (w : World) (s : Nat) (f : Meta → Meta) : Fr cid w (w.modMeta s f) :=
  fr_of_cmds rfl rfl rfl

theorem Fr.modLeaf {cid : Nat} {w W : World} (h : Fr cid w W) (l : Nat) (f : Leaf → Leaf) : Fr cid w (W.modLeaf l f) :=
  h.trans (fr_modLeaf cid W l f)
theorem Fr.wake {cid : Nat} {w W : World} (h : Fr cid w W) (k : Waker) : Fr cid w (W.wake k) := h.trans (fr_wake cid W k)

theorem fr_dropSender (cid : Nat) (w : World) (l : Nat) : Fr cid w (w.dropSender l) :=
  World.dropSender_inv (J := Fr cid w) (fun _ h => h.modLeaf l _) (fun _ h => h.modLeaf l _) (fun _ k h => h.wake k) w (Fr.refl cid w)

theorem fr_abortCmd (cid : Nat) (w : World) (c : Nat) : Fr cid w (w.abortCmd c) :=
  ⟨tk_abortCmd w c, sr_abortCmd _ w c, len_abortCmd w c⟩

theorem fr_dropBlock (cid : Nat) (w : World) (b : Block) (h : hostFreeB b = true) : Fr cid w (w.dropBlock b) :=
  ⟨tk_World_dropBlock w b h, (World.dropBlock_same (.cmd cid) w b h).1, (World.dropBlock_same (.cmd cid) w b h).2⟩

theorem fr_dropTask (cid : Nat) (w : World) (t : Task) (h : hostFreeB t.fut = true) : Fr cid w (w.dropTask t) := by
  unfold World.dropTask M.Rt.dropTask
  simp only
  exact (fr_modMeta cid w _ _).trans (fr_dropBlock cid _ t.fut h)

theorem fr_resolveReq (cid : Nat) (r : Resolve) (v : Val) (w : World) : Fr cid w (resolveReq r v w).2.2 :=
  resolveReq_inv (J := Fr cid w) (fun _ l _ _ h => World.deliver_inv (fun _ h => h.modLeaf l _) (fun _ k h => h.wake k) _ h)
    (fun _ l h => h.trans (fr_dropSender cid _ l)) r v w (Fr.refl cid w)

theorem fr_shell (cid : Nat) (w₀ : World) : M.Hosts.ShellOps (Fr cid w₀) where
  res w r v h := h.trans (fr_resolveReq cid r v w)
  ds w l h := h.trans (fr_dropSender cid w l)
  ab w n h := M.Hosts.doAbort_inv (fun W c k => k.trans (fr_abortCmd cid W c)) n w h

theorem fr_dropReq (cid : Nat) (r : Resolve) (w : World) : Fr cid w (dropReq r w).2 :=
  (fr_shell cid w).dropReq w r (Fr.refl cid w)

end M.Rt
