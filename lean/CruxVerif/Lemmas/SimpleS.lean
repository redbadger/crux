/-
`simpleS` task programs: `simple` plus `select` — tasks that wait only on shell requests and streams, combined by join and
select. A select that completes drops its losing branch, whose registrations stay behind at live senders; the frame here
survives that (`SSGood`: simpleS stays simpleS, and spawned tasks are simpleS and reference no channel), since the simpleS
host-free blocks are closed under polling (`simpleSHF_pollClass`).
Every simple program is simpleS, so what holds of simpleS programs holds of simple ones.
-/
import CruxVerif.Lemmas.Simple
namespace M.Rt

mutual
def simpleSI : Instr → Bool
  | .emit _ _ => true
  | .notify _ _ => true
  | .req _ _ _ => true
  | .selfwake _ => true
  | .stream _ _ _ _ body => simpleSIs body
  | .spawn _ body => simpleSIs body
  | .join a b => simpleSIs a && simpleSIs b
  | .select a b => simpleSIs a && simpleSIs b
  | _ => false
def simpleSIs : List Instr → Bool
  | [] => true
  | i :: is => simpleSI i && simpleSIs is
end

mutual
def simpleSB : Block → Bool
  | .mk _ cur rest => simpleSP cur && simpleSIs rest
def simpleSP : Pend → Bool
  | .idle => true
  | .reqDead => true
  | .req _ _ => true
  | .selfwake _ => true
  | .streamWait _ _ _ _ body => simpleSIs body
  | .streamBody _ _ _ _ body inner => simpleSIs body && simpleSB inner
  | .join a b _ _ => simpleSB a && simpleSB b
  | .select a b => simpleSB a && simpleSB b
  | _ => false
end

theorem ssB_eq (env : Env) (cur : Pend) (rest : List Instr) : simpleSB (.mk env cur rest) = (simpleSP cur && simpleSIs rest) := by
  simp [simpleSB]
theorem ssP_idle : simpleSP .idle = true := by simp [simpleSP]
theorem ssP_reqDead : simpleSP .reqDead = true := by simp [simpleSP]
theorem ssP_req (x l : Nat) : simpleSP (.req x l) = true := by simp [simpleSP]
theorem ssP_selfwake (k : Nat) : simpleSP (.selfwake k) = true := by simp [simpleSP]
theorem ssP_await (s : Nat) : simpleSP (.await s) = false := by simp [simpleSP]
theorem ssP_host (c : Nat) (m : Mapper) : simpleSP (.host c m) = false := by simp [simpleSP]
theorem ssP_select (a b : Block) : simpleSP (.select a b) = (simpleSB a && simpleSB b) := by simp [simpleSP]
theorem ssP_streamWait (x l c lim : Nat) (body : List Instr) : simpleSP (.streamWait x l c lim body) = simpleSIs body := by
  simp [simpleSP]
theorem ssP_streamBody (x l c lim : Nat) (body : List Instr) (inner : Block) :
    simpleSP (.streamBody x l c lim body inner) = (simpleSIs body && simpleSB inner) := by simp [simpleSP]
theorem ssP_join (a b : Block) (ad bd : Bool) : simpleSP (.join a b ad bd) = (simpleSB a && simpleSB b) := by simp [simpleSP]
theorem ssIs_nil : simpleSIs [] = true := by simp [simpleSIs]
theorem ssIs_cons (i : Instr) (is : List Instr) : simpleSIs (i :: is) = (simpleSI i && simpleSIs is) := by simp [simpleSIs]
theorem ssI_emit (t : Nat) (e : Expr) : simpleSI (.emit t e) = true := by simp [simpleSI]
theorem ssI_notify (t : Nat) (e : Expr) : simpleSI (.notify t e) = true := by simp [simpleSI]
theorem ssI_req (x n : Nat) (e : Expr) : simpleSI (.req x n e) = true := by simp [simpleSI]
theorem ssI_selfwake (k : Nat) : simpleSI (.selfwake k) = true := by simp [simpleSI]
theorem ssI_stream (x n : Nat) (e : Expr) (lim : Nat) (body : List Instr) : simpleSI (.stream x n e lim body) = simpleSIs body := by
  simp [simpleSI]
theorem ssI_spawn (h : Nat) (body : List Instr) : simpleSI (.spawn h body) = simpleSIs body := by simp [simpleSI]
theorem ssI_join (a b : List Instr) : simpleSI (.join a b) = (simpleSIs a && simpleSIs b) := by simp [simpleSI]
theorem ssI_select (a b : List Instr) : simpleSI (.select a b) = (simpleSIs a && simpleSIs b) := by simp [simpleSI]
theorem ssI_await (h : Nat) : simpleSI (.await h) = false := by simp [simpleSI]
theorem ssI_abortTask (h : Nat) : simpleSI (.abortTask h) = false := by simp [simpleSI]
theorem ssI_abortCmd (n : Nat) : simpleSI (.abortCmd n) = false := by simp [simpleSI]
theorem ssI_handoff (x n : Nat) (e : Expr) (body : List Instr) : simpleSI (.handoff x n e body) = false := by simp [simpleSI]
theorem ssI_host (c : Nat) (m : Mapper) : simpleSI (.host c m) = false := by simp [simpleSI]

mutual
theorem simpleSI_of_simpleI : (i : Instr) → simpleI i = true → simpleSI i = true
  | .emit _ _, _ => ssI_emit _ _
  | .notify _ _, _ => ssI_notify _ _
  | .req _ _ _, _ => ssI_req _ _ _
  | .selfwake _, _ => ssI_selfwake _
  | .stream _ _ _ _ body, h => by
    rw [spI_stream] at h; rw [ssI_stream]; exact simpleSIs_of_simpleIs body h
  | .spawn _ body, h => by
    rw [spI_spawn] at h; rw [ssI_spawn]; exact simpleSIs_of_simpleIs body h
  | .join a b, h => by
    rw [spI_join, Bool.and_eq_true] at h; rw [ssI_join, Bool.and_eq_true]
    exact ⟨simpleSIs_of_simpleIs a h.1, simpleSIs_of_simpleIs b h.2⟩
  | .select _ _, h => by rw [spI_select] at h; cases h
  | .await _, h => by rw [spI_await] at h; cases h
  | .abortTask _, h => by rw [spI_abortTask] at h; cases h
  | .abortCmd _, h => by rw [spI_abortCmd] at h; cases h
  | .handoff _ _ _ _, h => by rw [spI_handoff] at h; cases h
  | .host _ _, h => by rw [spI_host] at h; cases h
theorem simpleSIs_of_simpleIs : (is : List Instr) → simpleIs is = true → simpleSIs is = true
  | [], _ => ssIs_nil
  | i :: is, h => by
    rw [spIs_cons, Bool.and_eq_true] at h; rw [ssIs_cons, Bool.and_eq_true]
    exact ⟨simpleSI_of_simpleI i h.1, simpleSIs_of_simpleIs is h.2⟩
end

mutual
theorem simpleSB_of_simpleB : (b : Block) → simpleB b = true → simpleSB b = true
  | .mk _ cur rest, h => by
    rw [spB_eq, Bool.and_eq_true] at h; rw [ssB_eq, Bool.and_eq_true]
    exact ⟨simpleSP_of_simpleP cur h.1, simpleSIs_of_simpleIs rest h.2⟩
theorem simpleSP_of_simpleP : (p : Pend) → simpleP p = true → simpleSP p = true
  | .idle, _ => ssP_idle
  | .reqDead, _ => ssP_reqDead
  | .req _ _, _ => ssP_req _ _
  | .selfwake _, _ => ssP_selfwake _
  | .streamWait _ _ _ _ body, h => by
    rw [spP_streamWait] at h; rw [ssP_streamWait]; exact simpleSIs_of_simpleIs body h
  | .streamBody _ _ _ _ body inner, h => by
    rw [spP_streamBody, Bool.and_eq_true] at h; rw [ssP_streamBody, Bool.and_eq_true]
    exact ⟨simpleSIs_of_simpleIs body h.1, simpleSB_of_simpleB inner h.2⟩
  | .join a b _ _, h => by
    rw [spP_join, Bool.and_eq_true] at h; rw [ssP_join, Bool.and_eq_true]
    exact ⟨simpleSB_of_simpleB a h.1, simpleSB_of_simpleB b h.2⟩
  | .select _ _, h => by rw [spP_select] at h; cases h
  | .await _, h => by rw [spP_await] at h; cases h
  | .host _ _, h => by rw [spP_host] at h; cases h
end

def ssRes : PollRes → Prop
  | .pending b => simpleSB b = true
  | .ready _ => True

/-- since `w0`, no task slab was touched and whatever joined a spawn queue is simple and references no channel -/
abbrev SKS (w0 w : World) : Prop := TKp (fun _ t => simpleSB t.fut = true ∧ refsB t.fut = []) w0 w

section
variable {w0 w : World}
theorem sks_modMeta (s : Nat) (f : Meta → Meta) (h : SKS w0 w) : SKS w0 (w.modMeta s f) := tkp_modMeta s f h
end

/-- the simpleS host-free blocks -/
abbrev SimpleSHF (b : Block) : Prop := simpleSB b = true ∧ hostFreeB b = true

theorem simpleSHF_pollClass : PollClass SimpleSHF := by
  constructor <;> simp +contextual [SimpleSHF, ssB_eq, ssP_idle, ssP_reqDead, ssP_req, ssP_selfwake, ssP_await, ssP_select, ssP_streamWait,
    ssP_streamBody, ssP_join, ssIs_cons, ssI_req, ssI_selfwake, ssI_stream, ssI_spawn, ssI_join, ssI_await, ssI_select, ssI_handoff,
    hfB_eq, hfP_idle, hfP_reqDead, hfP_req, hfP_await, hfP_selfwake, hfP_streamWait, hfP_streamBody, hfP_join, hfP_select, hfIs_cons,
    hfI_stream, hfI_spawn, hfI_handoff, hfI_join, hfI_select, hfI_host]

/-- a simpleS block does not wait on a join handle and starts with none of `abortTask`, `abortCmd`, `handoff` -/
theorem SimpleSHF.not_awaiting {env : Env} {s : Nat} {rest : List Instr} : ¬ SimpleSHF (.mk env (.await s) rest) :=
  fun hb => absurd hb.1 (by simp [ssB_eq, ssP_await])
theorem SimpleSHF.not_abortTask {env : Env} {h : Nat} {rest : List Instr} : ¬ SimpleSHF (.mk env .idle (.abortTask h :: rest)) :=
  fun hb => absurd hb.1 (by simp [ssB_eq, ssIs_cons, ssI_abortTask])
theorem SimpleSHF.not_abortCmd {env : Env} {n : Nat} {rest : List Instr} : ¬ SimpleSHF (.mk env .idle (.abortCmd n :: rest)) :=
  fun hb => absurd hb.1 (by simp [ssB_eq, ssIs_cons, ssI_abortCmd])
theorem SimpleSHF.not_handoff {env : Env} {x n : Nat} {e : Expr} {body rest : List Instr} :
    ¬ SimpleSHF (.mk env .idle (.handoff x n e body :: rest)) :=
  fun hb => absurd hb.1 (by simp [ssB_eq, ssIs_cons, ssI_handoff])

def SSGood (pn : Waker → Nat → World → Option (NextRes × World)) (w0 : World) (f : Nat) : Prop :=
  ∀ wk sink b w r w', pollBlock pn f wk sink b w = some (r, w') → hostFreeB b = true → simpleSB b = true → SKS w0 w →
    SKS w0 w' ∧ ssRes r

theorem pollBlock_ssgood (pn) (w0 : World) (f : Nat) : SSGood pn w0 f := fun wk sink b w r w' h hf hs hw => by
  have ops : ClassOps SimpleSHF wk sink (fun _ => True) (SKS w0) :=
    tkp_classOps (fun _ _ _ _ hb => ⟨hb.1, by rw [rfB_eq, rfP_idle]⟩) (fun _ _ _ _ _ _ _ _ _ hb => absurd hb SimpleSHF.not_handoff) w0 wk sink
  have g := pollBlock_inv_class pn simpleSHF_pollClass (fun _ h => h.2) ops f b w r w' h ⟨hs, hf⟩ (fun _ _ => trivial) hw
  cases r with
  | pending b' => exact ⟨g.1, g.2.1.1⟩
  | ready e => exact ⟨g.1, trivial⟩

end M.Rt
