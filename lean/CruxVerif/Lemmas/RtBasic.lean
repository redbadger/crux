/- `modifyNth`, and what each primitive operation on the `World` of M.Rt does to each field: the field it rewrites
   (lookups after a modification) and the fields it leaves alone (one `_frame` lemma per operation: `simp` takes such a
   conjunction apart into its rewrite rules, so `simp [World.modLeaf_frame]` rewrites every field of `w.modLeaf l f`).
   Then the operations made of these: `wake`, `abortCmd`, `dropSender`, each for an arbitrary predicate and with its frame. -/
import CruxVerif.Lemmas.Loops
namespace M.Rt

theorem modifyNth_length {α : Type} (l : List α) (i : Nat) (f : α → α) : (modifyNth l i f).length = l.length := by
  induction l generalizing i with
  | nil => simp [modifyNth]
  | cons a as ih => cases i <;> simp [modifyNth, ih]

theorem modifyNth_get_self {α : Type} (l : List α) (i : Nat) (f : α → α) :
    (modifyNth l i f)[i]? = (l[i]?).map f := by
  induction l generalizing i with
  | nil => simp [modifyNth]
  | cons a as ih => cases i <;> simp [modifyNth, ih]

theorem modifyNth_get_other {α : Type} (l : List α) (i j : Nat) (f : α → α) (h : i ≠ j) :
    (modifyNth l i f)[j]? = l[j]? := by
  induction l generalizing i j with
  | nil => simp [modifyNth]
  | cons a as ih =>
    cases i <;> cases j <;> simp_all [modifyNth]

theorem modifyNth_getD {α : Type} (l : List α) (i j : Nat) (f : α → α) (d : α) :
    (modifyNth l i f)[j]?.getD d = if i = j ∧ j < l.length then f (l[j]?.getD d) else l[j]?.getD d := by
  by_cases h : i = j
  · subst h
    rw [modifyNth_get_self]
    by_cases hl : i < l.length <;> simp [hl]
  · simp [modifyNth_get_other l i j f h, h]

theorem mem_modifyNth {α : Type} (P : α → Prop) (f : α → α) (hf : ∀ a, P a → P (f a)) :
    ∀ (l : List α) (i : Nat), (∀ a ∈ l, P a) → ∀ a ∈ modifyNth l i f, P a
  | [], _, _ => by simp [modifyNth]
  | x :: xs, 0, h => by
    intro a ha
    simp only [modifyNth, List.mem_cons] at ha
    rcases ha with rfl | ha
    · exact hf x (h x (by simp))
    · exact h a (by simp [ha])
  | x :: xs, i + 1, h => by
    intro a ha
    simp only [modifyNth, List.mem_cons] at ha
    rcases ha with rfl | ha
    · exact h a (by simp)
    · exact mem_modifyNth P f hf xs i (fun b hb => h b (by simp [hb])) a ha

theorem filter_modifyNth_length {α : Type} (p : α → Bool) (g : α → α) (hg : ∀ a, p (g a) = p a) :
    ∀ (l : List α) (i : Nat), ((modifyNth l i g).filter p).length = (l.filter p).length
  | [], _ => by simp [modifyNth]
  | a :: as, 0 => by
    simp only [modifyNth, List.filter_cons, hg a]
    split <;> simp
  | a :: as, i + 1 => by
    simp only [modifyNth, List.filter_cons]
    have := filter_modifyNth_length p g hg as i
    split <;> simp [this]

theorem map_modifyNth_same {α β : Type} (g : α → β) (f : α → α) (hf : ∀ a, g (f a) = g a) :
    ∀ (l : List α) (i : Nat), (modifyNth l i f).map g = l.map g
  | [], _ => rfl
  | a :: as, 0 => by simp [modifyNth, hf]
  | a :: as, i + 1 => by simp [modifyNth, map_modifyNth_same g f hf as i]

namespace World

theorem cmd_modCmd (w : World) (cid c : Nat) (f : CmdSt → CmdSt) :
    (w.modCmd cid f).cmd c = if cid = c ∧ c < w.cmds.length then f (w.cmd c) else w.cmd c :=
  modifyNth_getD ..

theorem leaf_modLeaf (w : World) (l l' : Nat) (f : Leaf → Leaf) :
    (w.modLeaf l f).leaf l' = if l = l' ∧ l' < w.leaves.length then f (w.leaf l') else w.leaf l' :=
  modifyNth_getD ..

theorem getMeta_modMeta (w : World) (s t : Nat) (f : Meta → Meta) :
    (w.modMeta s f).getMeta t = if s = t ∧ t < w.metas.length then f (w.getMeta t) else w.getMeta t :=
  modifyNth_getD ..

theorem cmd_modCmd_self (w : World) (cid : Nat) (f : CmdSt → CmdSt) :
    (w.modCmd cid f).cmd cid = match w.cmds[cid]? with | some c => f c | none => {} := by
  simp only [cmd, modCmd, modifyNth_get_self]
  cases w.cmds[cid]? <;> simp

theorem cmd_modCmd_other (w : World) (cid c : Nat) (f : CmdSt → CmdSt) (h : cid ≠ c) :
    (w.modCmd cid f).cmd c = w.cmd c := by
  simp [cmd_modCmd, h]

theorem leaf_modLeaf_self (w : World) (l : Nat) (f : Leaf → Leaf) :
    (w.modLeaf l f).leaf l = match w.leaves[l]? with | some lf => f lf | none => {} := by
  simp only [leaf, modLeaf, modifyNth_get_self]
  cases w.leaves[l]? <;> simp

theorem leaf_modLeaf_lt (w : World) (l : Nat) (f : Leaf → Leaf) (h : l < w.leaves.length) :
    (w.modLeaf l f).leaf l = f (w.leaf l) := by
  simp [leaf_modLeaf, h]

theorem getMeta_modMeta_lt (w : World) (s : Nat) (f : Meta → Meta) (h : s < w.metas.length) :
    (w.modMeta s f).getMeta s = f (w.getMeta s) := by
  simp [getMeta_modMeta, h]

/-- `modCmd` seen from the command itself. In range its state is mapped; out of range it was and stays the default
    state, so a relation that holds of `c` and `f c`, and of the default with itself, holds before and after. -/
theorem cmd_modCmd_rel (R : CmdSt → CmdSt → Prop) (w : World) (cid : Nat) (f : CmdSt → CmdSt)
    (hin : ∀ c, R c (f c)) (hout : R {} {}) : R (w.cmd cid) ((w.modCmd cid f).cmd cid) := by
  rw [cmd_modCmd_self]
  unfold cmd
  cases w.cmds[cid]? with
  | none => exact hout
  | some c => exact hin c

theorem cmd_modCmd_ready_nil (w : World) (cid : Nat) (f : CmdSt → CmdSt) (hf : ∀ c, (f c).ready = []) :
    ((w.modCmd cid f).cmd cid).ready = [] :=
  cmd_modCmd_rel (fun _ b => b.ready = []) w cid f hf rfl

theorem cmd_modCmd_spawnQ_nil (w : World) (cid : Nat) (f : CmdSt → CmdSt) (hf : ∀ c, (f c).spawnQ = []) :
    ((w.modCmd cid f).cmd cid).spawnQ = [] :=
  cmd_modCmd_rel (fun _ b => b.spawnQ = []) w cid f hf rfl

theorem cmd_modCmd_spawnQ_keep (w : World) (cid : Nat) (f : CmdSt → CmdSt) (hf : ∀ c, (f c).spawnQ = c.spawnQ) :
    ((w.modCmd cid f).cmd cid).spawnQ = (w.cmd cid).spawnQ :=
  cmd_modCmd_rel (fun a b => b.spawnQ = a.spawnQ) w cid f hf rfl

theorem leaf_newLeaf_old (w : World) (wk : Option Waker) (legacy : Bool) (l : Nat) (h : l < w.leaves.length) :
    (w.newLeaf wk legacy).2.leaf l = w.leaf l := by
  simp [newLeaf, leaf, List.getElem?_append_left h]

theorem leaf_newLeaf_new (w : World) (wk : Option Waker) (legacy : Bool) :
    (w.newLeaf wk legacy).2.leaf w.leaves.length = { waker := wk, legacy := legacy } := by
  simp [newLeaf, leaf]

/-- the join-handle state `newMeta` appends is the default one, which is also what a lookup out of range gives -/
theorem getMeta_newMeta (w : World) (s : Nat) : w.newMeta.2.getMeta s = w.getMeta s := by
  simp only [newMeta, getMeta]
  by_cases h : s < w.metas.length
  · rw [List.getElem?_append_left h]
  · by_cases e : s = w.metas.length
    · simp [e]
    · rw [List.getElem?_eq_none (by simp; omega), List.getElem?_eq_none (by omega)]

theorem modCmd_frame (w : World) (c : Nat) (f : CmdSt → CmdSt) :
    (w.modCmd c f).cmds.length = w.cmds.length ∧ (w.modCmd c f).leaves = w.leaves ∧ (w.modCmd c f).metas = w.metas ∧
    (w.modCmd c f).nextSerial = w.nextSerial ∧ (w.modCmd c f).woken = w.woken ∧ (w.modCmd c f).execReady = w.execReady ∧
    (w.modCmd c f).execSpawn = w.execSpawn ∧ (w.modCmd c f).coreEffects = w.coreEffects ∧
    (w.modCmd c f).coreEvents = w.coreEvents ∧ (w.modCmd c f).aborts = w.aborts ∧ (w.modCmd c f).anomalies = w.anomalies ∧
    (∀ l, (w.modCmd c f).leaf l = w.leaf l) ∧ (∀ s, (w.modCmd c f).getMeta s = w.getMeta s) :=
  ⟨modifyNth_length .., rfl, rfl, rfl, rfl, rfl, rfl, rfl, rfl, rfl, rfl, fun _ => rfl, fun _ => rfl⟩

theorem modLeaf_frame (w : World) (l : Nat) (f : Leaf → Leaf) :
    (w.modLeaf l f).leaves.length = w.leaves.length ∧ (w.modLeaf l f).cmds = w.cmds ∧ (w.modLeaf l f).metas = w.metas ∧
    (w.modLeaf l f).nextSerial = w.nextSerial ∧ (w.modLeaf l f).woken = w.woken ∧ (w.modLeaf l f).execReady = w.execReady ∧
    (w.modLeaf l f).execSpawn = w.execSpawn ∧ (w.modLeaf l f).coreEffects = w.coreEffects ∧
    (w.modLeaf l f).coreEvents = w.coreEvents ∧ (w.modLeaf l f).aborts = w.aborts ∧ (w.modLeaf l f).anomalies = w.anomalies ∧
    (∀ c, (w.modLeaf l f).cmd c = w.cmd c) ∧ (∀ s, (w.modLeaf l f).getMeta s = w.getMeta s) :=
  ⟨modifyNth_length .., rfl, rfl, rfl, rfl, rfl, rfl, rfl, rfl, rfl, rfl, fun _ => rfl, fun _ => rfl⟩

theorem modMeta_frame (w : World) (s : Nat) (f : Meta → Meta) :
    (w.modMeta s f).metas.length = w.metas.length ∧ (w.modMeta s f).cmds = w.cmds ∧ (w.modMeta s f).leaves = w.leaves ∧
    (w.modMeta s f).nextSerial = w.nextSerial ∧ (w.modMeta s f).woken = w.woken ∧ (w.modMeta s f).execReady = w.execReady ∧
    (w.modMeta s f).execSpawn = w.execSpawn ∧ (w.modMeta s f).coreEffects = w.coreEffects ∧
    (w.modMeta s f).coreEvents = w.coreEvents ∧ (w.modMeta s f).aborts = w.aborts ∧ (w.modMeta s f).anomalies = w.anomalies ∧
    (∀ c, (w.modMeta s f).cmd c = w.cmd c) ∧ (∀ l, (w.modMeta s f).leaf l = w.leaf l) :=
  ⟨modifyNth_length .., rfl, rfl, rfl, rfl, rfl, rfl, rfl, rfl, rfl, rfl, fun _ => rfl, fun _ => rfl⟩

theorem dropReceiver_frame (w : World) (l : Nat) :
    (w.dropReceiver l).leaves.length = w.leaves.length ∧ (w.dropReceiver l).cmds = w.cmds ∧ (w.dropReceiver l).metas = w.metas ∧
    (w.dropReceiver l).nextSerial = w.nextSerial ∧ (w.dropReceiver l).woken = w.woken ∧
    (w.dropReceiver l).execReady = w.execReady ∧ (w.dropReceiver l).execSpawn = w.execSpawn ∧
    (w.dropReceiver l).coreEffects = w.coreEffects ∧ (w.dropReceiver l).coreEvents = w.coreEvents ∧
    (w.dropReceiver l).aborts = w.aborts ∧ (w.dropReceiver l).anomalies = w.anomalies ∧
    (∀ c, (w.dropReceiver l).cmd c = w.cmd c) ∧ (∀ s, (w.dropReceiver l).getMeta s = w.getMeta s) :=
  modLeaf_frame w l _

theorem newLeaf_frame (w : World) (wk : Option Waker) (lg : Bool) :
    (w.newLeaf wk lg).1 = w.leaves.length ∧ (w.newLeaf wk lg).2.leaves.length = w.leaves.length + 1 ∧
    (w.newLeaf wk lg).2.cmds = w.cmds ∧ (w.newLeaf wk lg).2.metas = w.metas ∧ (w.newLeaf wk lg).2.nextSerial = w.nextSerial ∧
    (w.newLeaf wk lg).2.woken = w.woken ∧ (w.newLeaf wk lg).2.execReady = w.execReady ∧
    (w.newLeaf wk lg).2.execSpawn = w.execSpawn ∧ (w.newLeaf wk lg).2.coreEffects = w.coreEffects ∧
    (w.newLeaf wk lg).2.coreEvents = w.coreEvents ∧ (w.newLeaf wk lg).2.aborts = w.aborts ∧
    (w.newLeaf wk lg).2.anomalies = w.anomalies ∧
    (∀ c, (w.newLeaf wk lg).2.cmd c = w.cmd c) ∧ (∀ s, (w.newLeaf wk lg).2.getMeta s = w.getMeta s) :=
  ⟨rfl, List.length_append, rfl, rfl, rfl, rfl, rfl, rfl, rfl, rfl, rfl, rfl, fun _ => rfl, fun _ => rfl⟩

theorem newMeta_frame (w : World) :
    w.newMeta.1 = w.metas.length ∧ w.newMeta.2.metas.length = w.metas.length + 1 ∧
    w.newMeta.2.cmds = w.cmds ∧ w.newMeta.2.leaves = w.leaves ∧ w.newMeta.2.nextSerial = w.nextSerial ∧
    w.newMeta.2.woken = w.woken ∧ w.newMeta.2.execReady = w.execReady ∧ w.newMeta.2.execSpawn = w.execSpawn ∧
    w.newMeta.2.coreEffects = w.coreEffects ∧ w.newMeta.2.coreEvents = w.coreEvents ∧ w.newMeta.2.aborts = w.aborts ∧
    w.newMeta.2.anomalies = w.anomalies ∧ (∀ c, w.newMeta.2.cmd c = w.cmd c) ∧ (∀ l, w.newMeta.2.leaf l = w.leaf l) :=
  ⟨rfl, List.length_append, rfl, rfl, rfl, rfl, rfl, rfl, rfl, rfl, rfl, rfl, fun _ => rfl, fun _ => rfl⟩

theorem sinkEffect_frame (w : World) (s : Sink) (e : Eff) :
    (w.sinkEffect s e).cmds.length = w.cmds.length ∧ (w.sinkEffect s e).leaves = w.leaves ∧ (w.sinkEffect s e).metas = w.metas ∧
    (w.sinkEffect s e).nextSerial = w.nextSerial ∧ (w.sinkEffect s e).woken = w.woken ∧
    (w.sinkEffect s e).execReady = w.execReady ∧ (w.sinkEffect s e).execSpawn = w.execSpawn ∧
    (w.sinkEffect s e).coreEvents = w.coreEvents ∧ (w.sinkEffect s e).aborts = w.aborts ∧
    (w.sinkEffect s e).anomalies = w.anomalies ∧
    (∀ l, (w.sinkEffect s e).leaf l = w.leaf l) ∧ (∀ m, (w.sinkEffect s e).getMeta m = w.getMeta m) := by
  cases s
  · exact ⟨modifyNth_length .., rfl, rfl, rfl, rfl, rfl, rfl, rfl, rfl, rfl, fun _ => rfl, fun _ => rfl⟩
  · exact ⟨rfl, rfl, rfl, rfl, rfl, rfl, rfl, rfl, rfl, rfl, fun _ => rfl, fun _ => rfl⟩

theorem sinkEvent_frame (w : World) (s : Sink) (e : Ev) :
    (w.sinkEvent s e).cmds.length = w.cmds.length ∧ (w.sinkEvent s e).leaves = w.leaves ∧ (w.sinkEvent s e).metas = w.metas ∧
    (w.sinkEvent s e).nextSerial = w.nextSerial ∧ (w.sinkEvent s e).woken = w.woken ∧
    (w.sinkEvent s e).execReady = w.execReady ∧ (w.sinkEvent s e).execSpawn = w.execSpawn ∧
    (w.sinkEvent s e).coreEffects = w.coreEffects ∧ (w.sinkEvent s e).aborts = w.aborts ∧
    (w.sinkEvent s e).anomalies = w.anomalies ∧
    (∀ l, (w.sinkEvent s e).leaf l = w.leaf l) ∧ (∀ m, (w.sinkEvent s e).getMeta m = w.getMeta m) := by
  cases s
  · exact ⟨modifyNth_length .., rfl, rfl, rfl, rfl, rfl, rfl, rfl, rfl, rfl, fun _ => rfl, fun _ => rfl⟩
  · exact ⟨rfl, rfl, rfl, rfl, rfl, rfl, rfl, rfl, rfl, rfl, fun _ => rfl, fun _ => rfl⟩

theorem anomaly_frame (w : World) (s : String) :
    (w.anomaly s).cmds = w.cmds ∧ (w.anomaly s).leaves = w.leaves ∧ (w.anomaly s).metas = w.metas ∧
    (w.anomaly s).nextSerial = w.nextSerial ∧ (w.anomaly s).woken = w.woken ∧ (w.anomaly s).execReady = w.execReady ∧
    (w.anomaly s).execSpawn = w.execSpawn ∧ (w.anomaly s).coreEffects = w.coreEffects ∧
    (w.anomaly s).coreEvents = w.coreEvents ∧ (w.anomaly s).aborts = w.aborts ∧
    (∀ c, (w.anomaly s).cmd c = w.cmd c) ∧ (∀ l, (w.anomaly s).leaf l = w.leaf l) ∧
    (∀ m, (w.anomaly s).getMeta m = w.getMeta m) :=
  ⟨rfl, rfl, rfl, rfl, rfl, rfl, rfl, rfl, rfl, rfl, fun _ => rfl, fun _ => rfl, fun _ => rfl⟩

end World

theorem getMeta_modMeta_self (w : World) (s : Nat) (f : Meta → Meta) :
    (w.modMeta s f).getMeta s = match w.metas[s]? with | some m => f m | none => {} := by
  simp only [World.getMeta, World.modMeta, modifyNth_get_self]
  cases w.metas[s]? <;> simp

theorem getMeta_modMeta_other (w : World) (s t : Nat) (f : Meta → Meta) (h : s ≠ t) :
    (w.modMeta s f).getMeta t = w.getMeta t := by
  simp [World.getMeta_modMeta, h]

theorem leaf_modLeaf_other (w : World) (l l' : Nat) (f : Leaf → Leaf) (h : l ≠ l') : (w.modLeaf l f).leaf l' = w.leaf l' := by
  simp [World.leaf_modLeaf, h]

theorem getMeta_append_left (w : World) (m : Meta) (s : Nat) (h : s < w.metas.length) :
    ({ w with metas := w.metas ++ [m] } : World).getMeta s = w.getMeta s := by
  simp [World.getMeta, List.getElem?_append_left h]

theorem World.cmd_modCmd_cases (w : World) (c : Nat) (g : CmdSt → CmdSt) (q : Nat) :
    (w.modCmd c g).cmd q = w.cmd q ∨ (w.modCmd c g).cmd q = g (w.cmd q) := by
  rw [World.cmd_modCmd]
  split
  · exact Or.inr rfl
  · exact Or.inl rfl

theorem World.cmd_modCmd_keep {β : Type} (proj : CmdSt → β) {f : CmdSt → CmdSt} (hf : ∀ x, proj (f x) = proj x)
    (w : World) (c q : Nat) : proj ((w.modCmd c f).cmd q) = proj (w.cmd q) := by
  rcases World.cmd_modCmd_cases w c f q with e | e
  · rw [e]
  · rw [e, hf]

theorem cmd_modCmd_keep {β : Type} (g : CmdSt → β) (w : World) (c : Nat) (f : CmdSt → CmdSt) (hf : ∀ x, g (f x) = g x) :
    g ((w.modCmd c f).cmd c) = g (w.cmd c) :=
  World.cmd_modCmd_keep g hf w c c

theorem World.mem_cmd_modCmd {α : Type} (proj : CmdSt → List α) {P : α → Prop} {w : World} {c : Nat}
    {g : CmdSt → CmdSt} (hg : ∀ x, ∀ a ∈ proj (g x), a ∈ proj x ∨ P a) {q : Nat} {a : α}
    (ha : a ∈ proj ((w.modCmd c g).cmd q)) : a ∈ proj (w.cmd q) ∨ (q = c ∧ P a) := by
  rw [World.cmd_modCmd] at ha
  split at ha
  · rename_i e
    exact (hg _ a ha).imp id fun hp => ⟨e.1.symm, hp⟩
  · exact Or.inl ha

theorem cmd_modCmd_const {β : Type} (g : CmdSt → β) (v : β) (w : World) (c : Nat) (f : CmdSt → CmdSt) (hf : ∀ x, g (f x) = v)
    (hd : g {} = v) : g ((w.modCmd c f).cmd c) = v :=
  World.cmd_modCmd_rel (fun _ b => g b = v) w c f hf hd

theorem cmd_modCmd_lt {w : World} {c : Nat} (hin : c < w.cmds.length) (f : CmdSt → CmdSt) : (w.modCmd c f).cmd c = f (w.cmd c) := by
  simp [World.cmd_modCmd, hin]

theorem cmd_modCmd_in (w : World) (cid : Nat) (f : CmdSt → CmdSt) (c : CmdSt) (h : w.cmds[cid]? = some c) :
    (w.modCmd cid f).cmd cid = f (w.cmd cid) ∧ (w.modCmd cid f).cmds[cid]? = some (f c) := by
  constructor
  · rw [World.cmd_modCmd_self]; simp [World.cmd, h]
  · simp [World.modCmd, modifyNth_get_self, h]

theorem cmd_modCmd_out (w : World) (cid : Nat) (f : CmdSt → CmdSt) (h : w.cmds[cid]? = none) :
    (w.modCmd cid f).cmd cid = w.cmd cid := by
  rw [World.cmd_modCmd_self]; simp [World.cmd, h]

/-- a command that stores a task exists (the default command stores none), so `modCmd` maps its state -/
theorem cmd_modCmd_of_get (w : World) (cid tid : Nat) (t : Task) (f : CmdSt → CmdSt)
    (h : (w.cmd cid).tasks.get? tid = some t) : (w.modCmd cid f).cmd cid = f (w.cmd cid) := by
  rw [World.cmd_modCmd_self]
  simp only [World.cmd] at h ⊢
  cases hc : w.cmds[cid]? with
  | none => simp [hc, Slab.get?] at h
  | some c => simp

theorem cmd_append_lt (cs : List CmdSt) (x : CmdSt) (q : Nat) (h : q < cs.length) : (cs ++ [x])[q]?.getD {} = cs[q]?.getD {} := by
  rw [List.getElem?_append_left h]

/-- the state of a command as `newCmd` creates it: one task, ready to run -/
def freshCmd (env : Env) (s : Nat) (is : List Instr) : CmdSt :=
  { tasks := ((Slab.empty : Slab Task).insert ⟨s, .mk env .idle is⟩).2, ready := [0], abortFlag := s }

theorem World.cmd_push (w : World) (x : CmdSt) (q : Nat) :
    ({ w with cmds := w.cmds ++ [x] } : World).cmd q = if q = w.cmds.length then x else w.cmd q := by
  simp only [World.cmd]
  split
  · rename_i e; subst e; simp
  · rename_i e
    rcases Nat.lt_or_gt_of_ne e with h | h
    · rw [cmd_append_lt _ _ q h]
    · rw [List.getElem?_eq_none (by simp; omega), List.getElem?_eq_none (by omega)]

section wake
variable {J : World → Prop}
  (ready : ∀ w c tid, J w → J (w.modCmd c fun x => { x with ready := x.ready ++ [tid] }))
  (take : ∀ w c, J w → J (w.modCmd c fun x => { x with waker := none }))
  (flag : ∀ w s, J w → J { w with woken := s :: w.woken })
  (root : ∀ w e, J w → J { w with execReady := w.execReady ++ [e] })
  (anom : ∀ w s, J w → J (w.anomaly s))
include ready take flag root anom

theorem wake_inv : ∀ (f : Nat) (wk : Waker) (w : World), J w → J (wake f wk w)
  | 0, .root e, w, h | _ + 1, .root e, w, h => by simpa only [wake] using root w e h
  | 0, .task .., w, h => anom w _ h
  | f + 1, .task cid tid serial, w, h => by
    unfold wake
    simp only
    have h1 : J (if (w.cmd cid).alive then w.modCmd cid fun c => { c with ready := c.ready ++ [tid] } else w) := by
      split
      · exact ready w cid tid h
      · exact h
    split
    · exact flag _ serial h1
    · exact wake_inv f _ _ (take _ cid (flag _ serial h1))

theorem World.wake_inv (w : World) (wk : Waker) (h : J w) : J (w.wake wk) :=
  M.Rt.wake_inv ready take flag root anom _ wk w h

end wake

theorem World.wakeAll_inv {J : World → Prop} (wake : ∀ w wk, J w → J (w.wake wk)) (w : World) (wks : List Waker) (h : J w) :
    J (w.wakeAll wks) :=
  foldl_inv_mem wks w (fun w wk _ hw => wake w wk hw) h

theorem wake_frame (f : Nat) (wk : Waker) (w : World) :
    (wake f wk w).cmds.length = w.cmds.length ∧ (wake f wk w).leaves = w.leaves ∧ (wake f wk w).metas = w.metas ∧
    (wake f wk w).nextSerial = w.nextSerial ∧ (wake f wk w).execSpawn = w.execSpawn ∧
    (wake f wk w).coreEffects = w.coreEffects ∧ (wake f wk w).coreEvents = w.coreEvents ∧ (wake f wk w).aborts = w.aborts ∧
    (∀ l, (wake f wk w).leaf l = w.leaf l) ∧ (∀ s, (wake f wk w).getMeta s = w.getMeta s) :=
  wake_inv
    (J := fun w' => w'.cmds.length = w.cmds.length ∧ w'.leaves = w.leaves ∧ w'.metas = w.metas ∧ w'.nextSerial = w.nextSerial ∧
      w'.execSpawn = w.execSpawn ∧ w'.coreEffects = w.coreEffects ∧ w'.coreEvents = w.coreEvents ∧ w'.aborts = w.aborts ∧
      (∀ l, w'.leaf l = w.leaf l) ∧ (∀ s, w'.getMeta s = w.getMeta s))
    (fun _ _ _ h => ⟨(modifyNth_length ..).trans h.1, h.2⟩) (fun _ _ h => ⟨(modifyNth_length ..).trans h.1, h.2⟩)
    (fun _ _ h => h) (fun _ _ h => h) (fun _ _ h => h) f wk w ⟨rfl, rfl, rfl, rfl, rfl, rfl, rfl, rfl, fun _ => rfl, fun _ => rfl⟩

theorem World.wake_frame (w : World) (wk : Waker) :
    (w.wake wk).cmds.length = w.cmds.length ∧ (w.wake wk).leaves = w.leaves ∧ (w.wake wk).metas = w.metas ∧
    (w.wake wk).nextSerial = w.nextSerial ∧ (w.wake wk).execSpawn = w.execSpawn ∧
    (w.wake wk).coreEffects = w.coreEffects ∧ (w.wake wk).coreEvents = w.coreEvents ∧ (w.wake wk).aborts = w.aborts ∧
    (∀ l, (w.wake wk).leaf l = w.leaf l) ∧ (∀ s, (w.wake wk).getMeta s = w.getMeta s) :=
  M.Rt.wake_frame _ wk w

theorem wake_leaves (f : Nat) (wk : Waker) (w : World) : (wake f wk w).leaves = w.leaves ∧ (wake f wk w).metas = w.metas :=
  ⟨(wake_frame f wk w).2.1, (wake_frame f wk w).2.2.1⟩

theorem wake_metas (f : Nat) (wk : Waker) (w : World) : (wake f wk w).metas = w.metas := (wake_leaves f wk w).2

theorem World.wake_leaves (w : World) (wk : Waker) : (w.wake wk).leaves = w.leaves := (World.wake_frame w wk).2.1

theorem leaf_wake (w : World) (wk : Waker) (l : Nat) : (w.wake wk).leaf l = w.leaf l :=
  (World.wake_frame w wk).2.2.2.2.2.2.2.2.1 l

theorem World.abortCmd_inv {J : World → Prop} {c : Nat}
    (abort : ∀ w s, J w → J (w.modMeta s fun m => { m with aborted := true }))
    (take : ∀ w, J w → J (w.modCmd c fun x => { x with waker := none }))
    (wake : ∀ w wk, J w → J (w.wake wk)) (w : World) (h : J w) : J (w.abortCmd c) := by
  unfold World.abortCmd
  simp only
  split
  · exact abort w _ h
  · exact wake _ _ (take _ (abort w _ h))

theorem World.dropSender_inv {J : World → Prop} {l : Nat}
    (close : ∀ w, J w → J (w.modLeaf l fun lf => { lf with senderAlive := false }))
    (closeTake : ∀ w, J w → J (w.modLeaf l fun lf => { lf with senderAlive := false, waker := none }))
    (wake : ∀ w wk, J w → J (w.wake wk)) (w : World) (h : J w) : J (w.dropSender l) := by
  unfold World.dropSender
  simp only
  split
  · exact close w h
  · split
    · exact wake _ _ (closeTake w h)
    · exact closeTake w h

theorem World.abortCmd_frame (w : World) (c : Nat) :
    (w.abortCmd c).cmds.length = w.cmds.length ∧ (w.abortCmd c).leaves = w.leaves ∧
    (w.abortCmd c).metas.length = w.metas.length ∧ (w.abortCmd c).nextSerial = w.nextSerial ∧
    (w.abortCmd c).execSpawn = w.execSpawn ∧ (w.abortCmd c).coreEffects = w.coreEffects ∧
    (w.abortCmd c).coreEvents = w.coreEvents ∧ (w.abortCmd c).aborts = w.aborts ∧ (∀ l, (w.abortCmd c).leaf l = w.leaf l) :=
  World.abortCmd_inv
    (J := fun w' => w'.cmds.length = w.cmds.length ∧ w'.leaves = w.leaves ∧ w'.metas.length = w.metas.length ∧
      w'.nextSerial = w.nextSerial ∧ w'.execSpawn = w.execSpawn ∧ w'.coreEffects = w.coreEffects ∧
      w'.coreEvents = w.coreEvents ∧ w'.aborts = w.aborts ∧ ∀ l, w'.leaf l = w.leaf l)
    (fun _ _ h => by simpa [World.modMeta_frame] using h) (fun _ h => by simpa [World.modCmd_frame] using h)
    (fun _ _ h => by simpa [World.wake_frame] using h) w
    ⟨rfl, rfl, rfl, rfl, rfl, rfl, rfl, rfl, fun _ => rfl⟩

theorem World.dropSender_frame (w : World) (l : Nat) :
    (w.dropSender l).cmds.length = w.cmds.length ∧ (w.dropSender l).leaves.length = w.leaves.length ∧
    (w.dropSender l).metas = w.metas ∧ (w.dropSender l).nextSerial = w.nextSerial ∧
    (w.dropSender l).execSpawn = w.execSpawn ∧ (w.dropSender l).coreEffects = w.coreEffects ∧
    (w.dropSender l).coreEvents = w.coreEvents ∧ (w.dropSender l).aborts = w.aborts ∧
    (∀ s, (w.dropSender l).getMeta s = w.getMeta s) :=
  World.dropSender_inv
    (J := fun w' => w'.cmds.length = w.cmds.length ∧ w'.leaves.length = w.leaves.length ∧ w'.metas = w.metas ∧
      w'.nextSerial = w.nextSerial ∧ w'.execSpawn = w.execSpawn ∧ w'.coreEffects = w.coreEffects ∧
      w'.coreEvents = w.coreEvents ∧ w'.aborts = w.aborts ∧ ∀ s, w'.getMeta s = w.getMeta s)
    (fun _ h => by simpa [World.modLeaf_frame] using h) (fun _ h => by simpa [World.modLeaf_frame] using h)
    (fun _ _ h => by simpa [World.wake_frame] using h) w
    ⟨rfl, rfl, rfl, rfl, rfl, rfl, rfl, rfl, fun _ => rfl⟩

theorem len_modLeaf (w : World) (l : Nat) (f : Leaf → Leaf) : (w.modLeaf l f).leaves.length = w.leaves.length :=
  (World.modLeaf_frame w l f).1

theorem len_dropReceiver (w : World) (l : Nat) : (w.dropReceiver l).leaves.length = w.leaves.length :=
  (World.dropReceiver_frame w l).1

theorem len_sinkEvent (w : World) (s : Sink) (e : Ev) : (w.sinkEvent s e).leaves.length = w.leaves.length := by
  rw [(World.sinkEvent_frame w s e).2.1]

theorem len_sinkEffect (w : World) (s : Sink) (e : Eff) : (w.sinkEffect s e).leaves.length = w.leaves.length := by
  rw [(World.sinkEffect_frame w s e).2.1]

theorem len_wake (w : World) (wk : Waker) : (w.wake wk).leaves.length = w.leaves.length := by rw [World.wake_leaves]

theorem len_abortCmd (w : World) (c : Nat) : (w.abortCmd c).leaves.length = w.leaves.length := by
  rw [(World.abortCmd_frame w c).2.1]

theorem len_dropSender (w : World) (l : Nat) : (w.dropSender l).leaves.length = w.leaves.length :=
  (World.dropSender_frame w l).2.1

end M.Rt
