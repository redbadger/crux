/-
`LQ`: a request / stream channel in which a waker is registered has a live sender (or is a legacy channel, whose sender
going away wakes nobody). The receiving side registers a waker only after it has seen the sender alive, and the sending
side takes the waker when it resolves or goes away. With `GInv` (every stored task is queued or parked at registrations
of its own waker) this says what a parked task waits FOR: a request the shell can still resolve or drop.
-/
import CruxVerif.Lemmas.GPark
namespace M.Rt

def LQ (w : World) : Prop :=
  ∀ l k, (w.leaf l).waker = some k → (w.leaf l).senderAlive = true ∨ (w.leaf l).legacy = true

theorem LQ.of_leaves {w w' : World} (h : LQ w) (hl : w'.leaves = w.leaves) : LQ w' := by
  intro l k hk
  rw [pleaf_of_leaves hl] at hk ⊢
  exact h l k hk

section
variable {w : World}

theorem LQ.modLeaf (h : LQ w) (l : Nat) (f : Leaf → Leaf)
    (hf : LQ w → ∀ k, (f (w.leaf l)).waker = some k → (f (w.leaf l)).senderAlive = true ∨ (f (w.leaf l)).legacy = true) :
    LQ (w.modLeaf l f) :=
  leaves_modLeaf (Q := fun lf => ∀ k, lf.waker = some k → lf.senderAlive = true ∨ lf.legacy = true) h l f (fun _ => hf h)

theorem leaf_of_get {l : Nat} {x : Leaf} (hl : w.leaves[l]? = some x) : w.leaf l = x := by simp [World.leaf, hl]

theorem lq_dropReceiver (l : Nat) (h : LQ w) : LQ (w.dropReceiver l) := h.modLeaf l _ fun h k hk => h l k hk
theorem lq_newLeaf (k : Option Waker) (lg : Bool) (h : LQ w) : LQ (w.newLeaf k lg).2 := by
  intro l k' hk
  by_cases hl : l < w.leaves.length
  · rw [World.leaf_newLeaf_old w k lg l hl] at hk ⊢; exact h l k' hk
  · simp only [World.leaf, World.newLeaf] at hk ⊢
    by_cases e : l = w.leaves.length
    · subst e; simp
    · rw [List.getElem?_eq_none (by simp; omega)] at hk; simp at hk
theorem lq_modMeta (s : Nat) (f : Meta → Meta) (h : LQ w) : LQ (w.modMeta s f) := h.of_leaves rfl
theorem lq_modCmd (c : Nat) (f : CmdSt → CmdSt) (h : LQ w) : LQ (w.modCmd c f) := h.of_leaves rfl
theorem lq_wake (k : Waker) (h : LQ w) : LQ (w.wake k) := h.of_leaves (World.wake_leaves w k)
theorem lq_abortCmd (c : Nat) (h : LQ w) : LQ (w.abortCmd c) := h.of_leaves (World.abortCmd_frame w c).2.1
end

theorem lq_ops (wk : Waker) (sink : Sink) : PollOps wk sink LQ where
  event w e h := by cases sink <;> exact h.of_leaves rfl
  effect w e h := by cases sink <;> exact h.of_leaves rfl
  newLeaf w lg h := lq_newLeaf _ lg h
  spawn w c b _ _ h := h.of_leaves rfl
  legacy w b _ _ h := h.of_leaves rfl
  abortTask w s h := h.of_leaves rfl
  abortCmd w c h := lq_abortCmd c h
  dropReceiver w l h := lq_dropReceiver l h
  setWaker w l ha h := h.modLeaf l _ fun _ _ _ => ha
  setQueue w l q h := h.modLeaf l _ fun h k hk => h l k hk
  join w s h := h.of_leaves rfl
  wake w h := lq_wake wk h

/-- An invariant that needs the tasks of command `c` to be host-free travels through `run_until_settled` together with
    that fact: it is enough to say what one `run_task`, one finished task, `spawn_new_tasks` and the clearing of an
    aborted command do to it. -/
theorem runUntilSettledF_hf {J : World → Prop} {pn : Waker → Nat → World → Option (NextRes × World)} {pf c : Nat}
    (pop : ∀ w rest, J w → J (w.modCmd c fun x => { x with ready := rest }))
    (run : ∀ w tid st w1, runTaskF (pollBlock pn pf) c tid w = some (st, w1) → HFc c w → J w → J w1)
    (fin : ∀ w tid, HFc c w → J w → J (finishTask c tid w))
    (spawn : ∀ w, HFc c w → J w → J (spawnNewTasks c w))
    (abort : ∀ w, w.aborted c = true → HFc c w → J w →
      J (((w.cmd c).tasks.values.foldl (fun w t => w.dropTask t) w).modCmd c fun x => { x with tasks := {} }))
    (w w' : World) (h : runUntilSettledF (runTaskF (pollBlock pn pf)) c w = some w') (hw : HFc c w) (hj : J w) : J w' := by
  refine (runUntilSettledF_inv (J := fun w => HFc c w ∧ J w) ?_ (settleLoop_inv ?_ (drainReady_inv ?_ ?_ ?_)) w w' h ⟨hw, hj⟩).2
  · intro w ha ⟨hw, hj⟩
    refine ⟨(runUntilSettledF_q pn pf c w _ ?_ hw).2, abort w ha hw hj⟩
    unfold runUntilSettledF; rw [if_pos ha]
  · exact fun w ⟨hw, hj⟩ => ⟨(spawnNewTasks_q c w hw).2, spawn w hw hj⟩
  · exact fun w rest ⟨hw, hj⟩ => ⟨hw.modCmd _ (fun _ _ h => Or.inl h) (fun _ _ h => Or.inl h), pop w rest hj⟩
  · exact fun w tid st w1 hrt ⟨hw, hj⟩ => ⟨(runTaskF_q pn pf c tid w st w1 hrt hw).2, run w tid st w1 hrt hw hj⟩
  · exact fun w tid ⟨hw, hj⟩ => ⟨(finishTask_q c tid w hw).2, fin w tid hw hj⟩

theorem runTaskF_lq (pn) (f : Nat) (c tid : Nat) (w : World) (st : TaskState) (w' : World)
    (h : runTaskF (pollBlock pn f) c tid w = some (st, w')) (hw : HFc c w) (hq : LQ w) : LQ w' := by
  have poll : ∀ {t r w1}, (w.cmd c).tasks.get? tid = some t →
      pollBlock pn f (.task c tid w.nextSerial) (.cmd c) t.fut { w with nextSerial := w.nextSerial + 1 } = some (r, w1) → LQ w1 :=
    fun hg hp => pollBlock_inv pn (lq_ops _ _) f _ _ _ _ hp (hw.t _ (Slab.mem_values_of_get _ _ _ hg)) (hq.of_leaves rfl)
  refine runTaskF_ind (Q := fun _ w' => LQ w') (fun _ => hq) (fun _ _ _ => hq) (fun t env w1 hg _ hp => poll hg hp) ?_ h
  intro t b w1 hg _ hp
  have := (poll hg hp).of_leaves (w' := parkTask c tid t w.nextSerial b w1) rfl
  exact ⟨fun _ _ => this, fun _ => this⟩

theorem dropTask_lq (w : World) (t : Task) (ht : hostFreeB t.fut = true) (hq : LQ w) : LQ (w.dropTask t) :=
  (lq_ops (.root 0) .core).dropBlock _ t.fut ht (lq_modMeta t.serial _ hq)

theorem finishTask_lq (c tid : Nat) (w : World) (hw : HFc c w) (hq : LQ w) : LQ (finishTask c tid w) :=
  finishTask_inv (J := LQ) (fun _ _ h => lq_modCmd _ _ h) (fun _ _ h => lq_modMeta _ _ h) (fun _ k h => lq_wake k h)
    (fun _ t hg h => dropTask_lq _ t (hw.t t (Slab.mem_values_of_get _ _ _ hg)) h) hq

theorem spawnNewTasks_leaves (c : Nat) (w : World) : (spawnNewTasks c w).leaves = w.leaves := (spawnNewTasks_frame c w).1

theorem runUntilSettledF_lq (pn) (pf : Nat) (c : Nat) (w w' : World)
    (h : runUntilSettledF (runTaskF (pollBlock pn pf)) c w = some w') (hw : HFc c w) (hq : LQ w) : LQ w' := by
  refine runUntilSettledF_hf (fun _ _ hq => lq_modCmd _ _ hq) (fun w tid => runTaskF_lq pn pf c tid w) (fun w tid => finishTask_lq c tid w)
    (fun w _ hq => hq.of_leaves (spawnNewTasks_leaves c w)) ?_ w w' h hw hq
  intro w _ hw hq
  exact lq_modCmd _ _ (foldl_inv_mem (J := LQ) _ _ (fun W t ht hq => dropTask_lq W t (hw.t t ht) hq) hq)

theorem runUntilSettled_lq (c : Nat) (w w' : World) (h : runUntilSettled c w = some w') (hw : HFc c w) (hq : LQ w) : LQ w' :=
  runUntilSettledF_lq _ _ c w w' h hw hq

theorem lq_dropSender (w : World) (l : Nat) (hq : LQ w) : LQ (w.dropSender l) := by
  unfold World.dropSender
  simp only
  split
  · rename_i hlg
    exact hq.modLeaf l _ fun _ _ _ => Or.inr hlg
  · have h1 : LQ (w.modLeaf l fun lf => { lf with senderAlive := false, waker := none }) := hq.modLeaf l _ fun _ _ hk => nomatch hk
    split
    · exact lq_wake _ h1
    · exact h1

end M.Rt

namespace M.Hosts
open M.Rt

theorem lq_shellOps : ShellOps LQ where
  res w r v h := resolveReq_inv (J := LQ)
    (fun w l _ _ hq => World.deliver_inv (fun _ hq => hq.modLeaf l _ fun _ _ hk => nomatch hk) (fun _ k hq => lq_wake k hq) w hq)
    lq_dropSender r v w h
  ds := lq_dropSender
  ab w n h := doAbort_inv (fun _ c h => lq_abortCmd c h) n w h

end M.Hosts

namespace M.Rt

-- the block is suspended only at requests whose channel has closed, at join handles or at hosted commands: no request or
-- stream the shell could still answer
mutual
def goneOnlyB : Block → Bool
  | .mk _ cur _ => goneOnlyP cur
def goneOnlyP : Pend → Bool
  | .reqDead => true
  | .await _ => true
  | .host _ _ => true
  | .streamBody _ _ _ _ _ inner => goneOnlyB inner
  | .join a b ad bd => (ad || goneOnlyB a) && (bd || goneOnlyB b)
  | .select a b => goneOnlyB a && goneOnlyB b
  | _ => false
end

theorem goneOnly_of_parked (wk : Waker) (w : World) (hq : LQ w)
    (hall : ∀ l, l < w.leaves.length → (w.leaf l).senderAlive = false ∧ (w.leaf l).legacy = false) :
    ∀ (b : Block), LPB wk w b → goneOnlyB b = true := by
  have dead : ∀ l, ¬ (l < w.leaves.length ∧ (w.leaf l).waker = some wk) := by
    intro l ⟨hl, hk⟩
    have a := hall l hl
    rcases hq l wk hk with h1 | h1
    · rw [a.1] at h1; cases h1
    · rw [a.2] at h1; cases h1
  refine Block.rec (motive_1 := fun b => LPB wk w b → goneOnlyB b = true) (motive_2 := fun p => LPP wk w p → goneOnlyP p = true)
    ?mk ?idle ?req ?reqDead ?streamWait ?streamBody ?await ?join ?select ?selfwake ?host
  case mk => exact fun env cur rest ih hp => by simp only [LPB] at hp; simp only [goneOnlyB]; exact ih hp
  case idle => exact fun hp => by simp [LPP] at hp
  case reqDead => exact fun _ => by simp [goneOnlyP]
  case await => exact fun s _ => by simp [goneOnlyP]
  case selfwake => exact fun k hp => by simp [LPP] at hp
  case req => exact fun x l hp => by simp only [LPP] at hp; exact (dead l hp).elim
  case streamWait => exact fun x l c lim body hp => by simp only [LPP] at hp; exact (dead l hp).elim
  case streamBody => exact fun x l c lim body inner ih hp => by simp only [LPP] at hp; simp only [goneOnlyP]; exact ih hp
  case join =>
    intro a b ad bd iha ihb hp
    simp only [LPP] at hp
    simp only [goneOnlyP, Bool.and_eq_true, Bool.or_eq_true]
    refine ⟨?_, ?_⟩
    · cases ad with
      | true => exact Or.inl rfl
      | false => exact Or.inr (iha (hp.1 rfl))
    · cases bd with
      | true => exact Or.inl rfl
      | false => exact Or.inr (ihb (hp.2 rfl))
  case select =>
    intro a b iha ihb hp
    simp only [LPP] at hp
    simp only [goneOnlyP, Bool.and_eq_true]
    exact ⟨iha hp.1, ihb hp.2⟩
  case host => exact fun c m _ => by simp [goneOnlyP]

end M.Rt

namespace M.Hosts
open M.Rt

/-- the parking invariant together with "a registered waker means a live sender" -/
def GL (d : Direct) : Prop := GInv d.cid d.w ∧ LQ d.w

theorem GL.directOps : DirectOps fun cid w => GInv cid w ∧ LQ w where
  settle cid w w' h g := ⟨runUntilSettled_gp cid w w' h g.1, runUntilSettled_lq cid w w' h g.1.ctx.own.hfc g.2⟩
  effs cid w g := ⟨GInv.directOps.effs cid w g.1, lq_modCmd _ _ g.2⟩
  evs cid w g := ⟨GInv.directOps.evs cid w g.1, lq_modCmd _ _ g.2⟩
  shell cid := (GInv.shellOps cid).and lq_shellOps

theorem LQ_init (is : List Instr) (canon : Bool) : LQ (Direct.new (.task is) canon).w := by
  intro l k hk
  unfold Direct.new at hk
  simp [instantiate, newCmd, World.newMeta, World.leaf] at hk

/-- **A registered waker means a live sender, over whole runs** (host-free task programs under the direct host) together
    with the parking invariant. -/
theorem runDirect_gl (is : List Instr) (hf : hostFreeIs is = true) (canon : Bool) (acts : List Action) (os : List Obs)
    (d : Direct) (h : runDirect (.task is) canon acts = some (os, d)) : GL d :=
  (runDirect_inv GL.directOps (.task is) canon ⟨GInv_init is hf canon, LQ_init is canon⟩ acts os d h).2

end M.Hosts
