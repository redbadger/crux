/-
How a predicate on worlds travels through the loops of the model, stated once for an arbitrary predicate.

Every loop of `Model/Rt.lean` is "fuel, look at a queue, do one thing, go on", and every host of `Model/Hosts.lean` is a
list of actions each made of a few operations.  A global invariant therefore only has to say what ONE iteration or ONE
operation does to it; the inductions on fuel and on the history are here.  A relation between the world before and the
world after is the predicate `R w₀ ·` with the start fixed, so predicates suffice.
-/
import CruxVerif.Model.Hosts
namespace M.Rt

theorem foldl_inv_mem {α β : Type} {J : β → Prop} {f : β → α → β} :
    ∀ (l : List α) (b : β), (∀ b a, a ∈ l → J b → J (f b a)) → J b → J (l.foldl f b)
  | [], _, _, hb => hb
  | a :: l, b, h, hb =>
    foldl_inv_mem l (f b a) (fun b x hx => h b x (List.mem_cons_of_mem _ hx)) (h b a List.mem_cons_self hb)

theorem foldl_eq {α β γ : Type} (m : β → γ) (g : β → α → β) (hg : ∀ b a, m (g b a) = m b) (l : List α) (b : β) :
    m (l.foldl g b) = m b :=
  foldl_inv_mem (J := (m · = m b)) l b (fun b' a _ h => (hg b' a).trans h) rfl

section drop
variable {J : World → Prop} {dc : Nat → World → World}

mutual
theorem dropBlock_inv (hdc : ∀ c w, J w → J (dc c w)) (hr : ∀ w l, J w → J (w.dropReceiver l)) :
    (b : Block) → (w : World) → J w → J (dropBlock dc b w)
  | .mk _ cur rest, w, h => by
    simp only [dropBlock]
    refine foldl_inv_mem rest _ (fun w i _ hw => ?_) (dropPend_inv hdc hr cur w h)
    cases i <;> first | exact hw | exact hdc _ _ hw
theorem dropPend_inv (hdc : ∀ c w, J w → J (dc c w)) (hr : ∀ w l, J w → J (w.dropReceiver l)) :
    (p : Pend) → (w : World) → J w → J (dropPend dc p w)
  | .idle, _, h | .reqDead, _, h | .await _, _, h | .selfwake _, _, h => by simpa only [dropPend] using h
  | .req _ l, w, h | .streamWait _ l _ _ _, w, h => by simpa only [dropPend] using hr w l h
  | .streamBody _ l _ _ _ inner, w, h => by
    simpa only [dropPend] using hr _ l (dropBlock_inv hdc hr inner w h)
  | .join a b ad bd, w, h => by
    simp only [dropPend]
    cases ad <;> cases bd <;> simp only [Bool.false_eq_true, if_false, if_true]
    · exact dropBlock_inv hdc hr b _ (dropBlock_inv hdc hr a w h)
    · exact dropBlock_inv hdc hr a w h
    · exact dropBlock_inv hdc hr b w h
    · exact h
  | .select a b, w, h => by
    simpa only [dropPend] using dropBlock_inv hdc hr b _ (dropBlock_inv hdc hr a w h)
  | .host c _, w, h => by simpa only [dropPend] using hdc c w h
end

theorem dropTask_inv (hdc : ∀ c w, J w → J (dc c w)) (hr : ∀ w l, J w → J (w.dropReceiver l))
    (hm : ∀ w s, J w → J (w.modMeta s fun m => { m with taskAlive := false, joinWakers := [] }))
    (t : Task) (w : World) (h : J w) : J (dropTask dc t w) :=
  dropBlock_inv hdc hr t.fut _ (hm w t.serial h)

theorem dropCmdAt_inv (hr : ∀ w l, J w → J (w.dropReceiver l))
    (hm : ∀ w s, J w → J (w.modMeta s fun m => { m with taskAlive := false, joinWakers := [] }))
    (hs : ∀ w l, J w → J (w.dropSender l)) (ha : ∀ w s, J w → J (w.anomaly s))
    (hc : ∀ w cid, J w → J (w.modCmd cid fun c =>
      { c with alive := false, effects := [], events := [], spawnQ := [], tasks := {}, ready := [] })) :
    ∀ (f cid : Nat) (w : World), J w → J (dropCmdAt f cid w)
  | 0, _, w, h => ha w _ h
  | f + 1, cid, w, h => by
    have ht : ∀ (l : List Task) (w : World), J w → J (l.foldl (fun w t => dropTask (dropCmdAt f) t w) w) := fun l w hw =>
      foldl_inv_mem l w (fun b t _ hb => dropTask_inv (dropCmdAt_inv hr hm hs ha hc f) hr hm t b hb) hw
    unfold dropCmdAt
    simp only
    split
    · exact h
    · refine ht _ _ (ht _ _ ?_)
      split
      · exact hc w cid h
      · refine ha _ _ (foldl_inv_mem _ _ (fun b e _ hb => ?_) (hc w cid h))
        unfold dropEff
        split
        · exact hs b _ hb
        · exact hs b _ hb
        · exact hb

theorem World.drop_inv (hr : ∀ w l, J w → J (w.dropReceiver l))
    (hm : ∀ w s, J w → J (w.modMeta s fun m => { m with taskAlive := false, joinWakers := [] }))
    (hs : ∀ w l, J w → J (w.dropSender l)) (ha : ∀ w s, J w → J (w.anomaly s))
    (hc : ∀ w cid, J w → J (w.modCmd cid fun c =>
      { c with alive := false, effects := [], events := [], spawnQ := [], tasks := {}, ready := [] })) :
    (∀ w c, J w → J (w.dropCmd c)) ∧ (∀ w b, J w → J (w.dropBlock b)) ∧ (∀ w t, J w → J (w.dropTask t)) :=
  have h1 : ∀ w c, J w → J (World.dropCmd w c) := fun w c h => dropCmdAt_inv hr hm hs ha hc _ c w h
  ⟨h1, fun w b h => dropBlock_inv (fun c w => h1 w c) hr b w h, fun w t h => dropTask_inv (fun c w => h1 w c) hr hm t w h⟩

end drop

/-- what `drainReady` does with a task it has run -/
def afterRun (cid tid : Nat) : TaskState → World → World
  | .missing, w | .suspended, w => w
  | .completed, w | .cancelled, w => finishTask cid tid w

variable {J : World → Prop} {rt : Nat → Nat → World → Option (TaskState × World)} {cid : Nat}

theorem drainReady_ind
    (step : ∀ w tid rest st w1, J w → (w.cmd cid).ready = tid :: rest →
      rt cid tid (w.modCmd cid fun c => { c with ready := rest }) = some (st, w1) → J (afterRun cid tid st w1)) :
    ∀ f w w', drainReady rt f cid w = some w' → J w → J w'
  | 0, _, _, h, _ => by simp [drainReady] at h
  | f + 1, w, w', h, hw => by
    unfold drainReady at h
    split at h
    · simp only [Option.some.injEq] at h; subst h; exact hw
    · rename_i tid rest hr
      simp only at h
      split at h
      · cases h
      all_goals
        rename_i w1 hrt
        exact drainReady_ind step f _ w' h (step w tid rest _ w1 hw hr hrt)

theorem drainReady_inv
    (pop : ∀ w rest, J w → J (w.modCmd cid fun c => { c with ready := rest }))
    (run : ∀ w tid st w1, rt cid tid w = some (st, w1) → J w → J w1)
    (fin : ∀ w tid, J w → J (finishTask cid tid w)) :
    ∀ f w w', drainReady rt f cid w = some w' → J w → J w' :=
  drainReady_ind fun w tid rest st w1 hw _ hrt => by
    have h1 := run _ tid st w1 hrt (pop w rest hw)
    cases st <;> first | exact h1 | exact fin w1 tid h1

theorem settleLoop_inv
    (spawn : ∀ w, J w → J (spawnNewTasks cid w))
    (drain : ∀ f w w', drainReady rt f cid w = some w' → J w → J w') :
    ∀ f w w', settleLoop rt f cid w = some w' → J w → J w'
  | 0, _, _, h, _ => by simp [settleLoop] at h
  | f + 1, w, w', h, hw => by
    unfold settleLoop at h
    simp only at h
    split at h
    · simp only [Option.some.injEq] at h; subst h; exact spawn w hw
    · split at h
      · cases h
      · rename_i w1 hd
        exact settleLoop_inv spawn drain f w1 w' h (drain _ _ w1 hd (spawn w hw))

theorem runUntilSettledF_inv
    (abort : ∀ w, w.aborted cid = true → J w →
      J (((w.cmd cid).tasks.values.foldl (fun w t => w.dropTask t) w).modCmd cid fun c => { c with tasks := {} }))
    (settle : ∀ f w w', settleLoop rt f cid w = some w' → J w → J w') :
    ∀ w w', runUntilSettledF rt cid w = some w' → J w → J w' := by
  intro w w' h hw
  unfold runUntilSettledF at h
  split at h
  · rename_i ha
    simp only [Option.some.injEq] at h; subst h; exact abort w ha hw
  · exact settle _ w w' h hw

theorem pollNextF_cases {settle : Nat → World → Option World} {wk : Waker} {c : Nat} {w : World} {r : NextRes} {w' : World}
    (h : pollNextF settle wk c w = some (r, w')) :
    ∃ w1, settle c (w.modCmd c fun x => { x with waker := some wk }) = some w1 ∧
      ((r ≠ .pending ∧ ((∃ es, w' = w1.modCmd c fun x => { x with events := es }) ∨
          ∃ es, w' = w1.modCmd c fun x => { x with effects := es })) ∨
        ((w1.cmd c).events = [] ∧ (w1.cmd c).effects = [] ∧ settle c w1 = some w')) := by
  unfold pollNextF at h
  simp only at h
  split at h
  · cases h
  · rename_i w1 hs1
    refine ⟨w1, hs1, ?_⟩
    split at h
    · simp only [Option.some.injEq, Prod.mk.injEq] at h; obtain ⟨rfl, rfl⟩ := h
      exact Or.inl ⟨nofun, Or.inl ⟨_, rfl⟩⟩
    · rename_i hev
      split at h
      · simp only [Option.some.injEq, Prod.mk.injEq] at h; obtain ⟨rfl, rfl⟩ := h
        exact Or.inl ⟨nofun, Or.inr ⟨_, rfl⟩⟩
      · rename_i hef
        split at h
        · cases h
        · rename_i w2 hs2
          have : w' = w2 := by
            split at h <;> (simp only [Option.some.injEq, Prod.mk.injEq] at h; exact h.2.symm)
          exact Or.inr ⟨hev, hef, this ▸ hs2⟩

theorem pollNextF_inv {settle : Nat → World → Option World} {wk : Waker}
    (arm : ∀ w, J w → J (w.modCmd cid fun c => { c with waker := some wk }))
    (st : ∀ w w', settle cid w = some w' → J w → J w')
    (evs : ∀ w es, J w → J (w.modCmd cid fun c => { c with events := es }))
    (effs : ∀ w es, J w → J (w.modCmd cid fun c => { c with effects := es })) :
    ∀ w r w', pollNextF settle wk cid w = some (r, w') → J w → J w' := by
  intro w r w' h hw
  obtain ⟨w1, h1, hc⟩ := pollNextF_cases h
  have k1 := st _ w1 h1 (arm w hw)
  rcases hc with ⟨-, ⟨es, rfl⟩ | ⟨es, rfl⟩⟩ | ⟨-, -, h2⟩
  · exact evs w1 es k1
  · exact effs w1 es k1
  · exact st w1 w' h2 k1

theorem hostLoop_inv {pn : Waker → Nat → World → Option (NextRes × World)} {wk : Waker} {me c : Nat} {m : Mapper}
    (hpn : ∀ w r w', pn wk c w = some (r, w') → J w → J w') (fwd : ∀ w o, J w → J (w.forward me o)) :
    ∀ f w d w', hostLoop pn f wk me c m w = some (d, w') → J w → J w'
  | 0, _, _, _, h, _ => by simp [hostLoop] at h
  | f + 1, w, d, w', h, hw => by
    unfold hostLoop at h
    split at h
    · cases h
    · rename_i o w1 hp
      exact hostLoop_inv hpn fwd f _ d w' h (fwd w1 _ (hpn w _ w1 hp hw))
    · rename_i w1 hp
      simp only [Option.some.injEq, Prod.mk.injEq] at h; obtain ⟨_, rfl⟩ := h; exact hpn w _ w1 hp hw
    · rename_i w1 hp
      simp only [Option.some.injEq, Prod.mk.injEq] at h; obtain ⟨_, rfl⟩ := h; exact hpn w _ w1 hp hw

theorem pollAt_ind {P : (Waker → Sink → Block → World → Option (PollRes × World)) → Prop}
    (zero : P fun _ _ _ _ => none)
    (succ : ∀ poll, P poll → P (pollBlock (pollNextF (runUntilSettledF (runTaskF poll))) loopFuel)) :
    ∀ d, P (pollAt d)
  | 0 => zero
  | d + 1 => succ _ (pollAt_ind zero succ d)

theorem pollAt_depthFuel : pollAt depthFuel = pollBlock (pollNextF (runUntilSettledF (runTaskF (pollAt 63)))) loopFuel := rfl

variable {P : Core → Prop}

theorem spawnerLoop_ind {etid c : Nat} {Q : Bool → World → Prop}
    (eff : ∀ w e w1, J w → pollNext (.root etid) c w = some (.item (.effect e), w1) → J (w1.sinkEffect .core e))
    (ev : ∀ w e w1, J w → pollNext (.root etid) c w = some (.item (.event e), w1) → J (w1.sinkEvent .core e))
    (fin : ∀ w w1, J w → pollNext (.root etid) c w = some (.finished, w1) → Q true (w1.dropCmd c))
    (pend : ∀ w w1, J w → pollNext (.root etid) c w = some (.pending, w1) → Q false w1) :
    ∀ f w d w', spawnerLoop f etid c w = some (d, w') → J w → Q d w'
  | 0, _, _, _, h, _ => by simp [spawnerLoop] at h
  | f + 1, w, d, w', h, hw => by
    unfold spawnerLoop at h
    split at h
    · cases h
    · rename_i e w1 hp
      exact spawnerLoop_ind eff ev fin pend f _ d w' h (eff w e w1 hw hp)
    · rename_i e w1 hp
      exact spawnerLoop_ind eff ev fin pend f _ d w' h (ev w e w1 hw hp)
    · rename_i w1 hp
      simp only [Option.some.injEq, Prod.mk.injEq] at h; obtain ⟨rfl, rfl⟩ := h; exact fin w w1 hw hp
    · rename_i w1 hp
      simp only [Option.some.injEq, Prod.mk.injEq] at h; obtain ⟨rfl, rfl⟩ := h; exact pend w w1 hw hp

theorem spawnerLoop_post {Q : Bool → World → Prop} {etid : Nat}
    (pn : ∀ w r w', pollNext (.root etid) cid w = some (r, w') → J w → J w')
    (eff : ∀ w e, J w → J (w.sinkEffect .core e)) (ev : ∀ w e, J w → J (w.sinkEvent .core e))
    (fin : ∀ w, J w → Q true (w.dropCmd cid)) (pend : ∀ w, J w → Q false w) :
    ∀ f w d w', spawnerLoop f etid cid w = some (d, w') → J w → Q d w' :=
  spawnerLoop_ind (fun w e w1 hw hp => eff w1 e (pn w _ w1 hp hw)) (fun w e w1 hw hp => ev w1 e (pn w _ w1 hp hw))
    (fun w w1 hw hp => fin w1 (pn w _ w1 hp hw)) (fun w w1 hw hp => pend w1 (pn w _ w1 hp hw))

theorem spawnerLoop_inv {etid : Nat}
    (pn : ∀ w r w', pollNext (.root etid) cid w = some (r, w') → J w → J w')
    (eff : ∀ w e, J w → J (w.sinkEffect .core e)) (ev : ∀ w e, J w → J (w.sinkEvent .core e))
    (fin : ∀ w, J w → J (w.dropCmd cid)) :
    ∀ f w b w', spawnerLoop f etid cid w = some (b, w') → J w → J w' :=
  spawnerLoop_post (Q := fun _ => J) pn eff ev fin fun _ h => h

theorem execRunTask_ind {etid : Nat} {k : Core} {Q : RunTask → Core → Prop}
    (missing : k.execTasks.get? etid = none → Q .missing k)
    (done : ∀ cid w, k.execTasks.get? etid = some (.cmd cid) → spawnerLoop loopFuel etid cid k.w = some (true, w) →
      Q .completed { k with w := w, execTasks := (k.execTasks.remove etid).2 })
    (pending : ∀ cid w, k.execTasks.get? etid = some (.cmd cid) → spawnerLoop loopFuel etid cid k.w = some (false, w) →
      Q .suspended { k with w := w })
    (ready : ∀ b env w, k.execTasks.get? etid = some (.legacy b) →
      pollAt depthFuel (.root etid) .core b k.w = some (.ready env, w) →
      Q .completed { k with w := w, execTasks := (k.execTasks.remove etid).2 })
    (parked : ∀ b b' w, k.execTasks.get? etid = some (.legacy b) →
      pollAt depthFuel (.root etid) .core b k.w = some (.pending b', w) →
      Q .suspended { k with w := w, execTasks := k.execTasks.set etid (.legacy b') })
    {r : RunTask} {k' : Core} (h : execRunTask etid k = some (r, k')) : Q r k' := by
  unfold execRunTask at h
  split at h
  · rename_i hg
    simp only [Option.some.injEq, Prod.mk.injEq] at h; obtain ⟨rfl, rfl⟩ := h; exact missing hg
  · rename_i cid hg
    split at h
    · cases h
    · rename_i w hs
      simp only [Option.some.injEq, Prod.mk.injEq] at h; obtain ⟨rfl, rfl⟩ := h; exact done cid w hg hs
    · rename_i w hs
      simp only [Option.some.injEq, Prod.mk.injEq] at h; obtain ⟨rfl, rfl⟩ := h; exact pending cid w hg hs
  · rename_i b hg
    split at h
    · cases h
    · rename_i env w hp
      simp only [Option.some.injEq, Prod.mk.injEq] at h; obtain ⟨rfl, rfl⟩ := h; exact ready b env w hg hp
    · rename_i b' w hp
      simp only [Option.some.injEq, Prod.mk.injEq] at h; obtain ⟨rfl, rfl⟩ := h; exact parked b b' w hg hp

theorem execDrainSpawn_inv
    (step : ∀ k t rest r k', P k → k.w.execSpawn = t :: rest →
      execRunTask (k.execTasks.insert t).1
        { k with w := { k.w with execSpawn := rest }, execTasks := (k.execTasks.insert t).2 } = some (r, k') → P k') :
    ∀ f k d k' d', execDrainSpawn f k d = some (k', d') → P k → P k'
  | 0, _, _, _, _, h, _ => by simp [execDrainSpawn] at h
  | f + 1, k, d, k', d', h, hk => by
    unfold execDrainSpawn at h
    split at h
    · simp only [Option.some.injEq, Prod.mk.injEq] at h; obtain ⟨rfl, _⟩ := h; exact hk
    · rename_i t rest hs
      simp only at h
      split at h
      · cases h
      · rename_i r k1 hr
        exact execDrainSpawn_inv step f k1 _ k' d' h (step k t rest r k1 hk hs hr)

theorem execDrainReady_inv
    (step : ∀ k etid rest r k', P k → k.w.execReady = etid :: rest →
      execRunTask etid { k with w := { k.w with execReady := rest } } = some (r, k') → P k') :
    ∀ f k d k' d', execDrainReady f k d = some (k', d') → P k → P k'
  | 0, _, _, _, _, h, _ => by simp [execDrainReady] at h
  | f + 1, k, d, k', d', h, hk => by
    unfold execDrainReady at h
    split at h
    · simp only [Option.some.injEq, Prod.mk.injEq] at h; obtain ⟨rfl, _⟩ := h; exact hk
    · rename_i etid rest hs
      split at h
      · cases h
      · rename_i k1 hr
        exact execDrainReady_inv step f k1 _ k' d' h (step k etid rest _ k1 hk hs hr)
      · rename_i r k1 _ hr
        exact execDrainReady_inv step f k1 _ k' d' h (step k etid rest r k1 hk hs hr)

theorem runAll_inv
    (ds : ∀ f k d k' d', execDrainSpawn f k d = some (k', d') → P k → P k')
    (dr : ∀ f k d k' d', execDrainReady f k d = some (k', d') → P k → P k') :
    ∀ f k k', runAll f k = some k' → P k → P k'
  | 0, _, _, h, _ => by simp [runAll] at h
  | f + 1, k, k', h, hk => by
    unfold runAll at h
    split at h
    · cases h
    · rename_i k1 d1 h1
      split at h
      · cases h
      · rename_i k2 d2 h2
        have hk2 := dr _ k1 _ k2 d2 h2 (ds _ k _ k1 d1 h1 hk)
        split at h
        · exact runAll_inv ds dr f k2 k' h hk2
        · simp only [Option.some.injEq] at h; subst h; exact hk2

/-- `update` queues the legacy tasks the app starts for the event … -/
def updWorld (ev : Ev) (ls : List (List Instr)) (w : World) : World :=
  { w with execSpawn := w.execSpawn ++ ls.map fun is => ExecTask.legacy (.mk { vars := [(0, ev.v)] } .idle is) }

/-- … then builds the command the app returns, queues it and logs the event -/
def updateWith (ev : Ev) (cmd : Cmd) (ls : List (List Instr)) (k : Core) : Core :=
  let r := instantiate { vars := [(0, ev.v)] } cmd (updWorld ev ls k.w)
  { k with w := { r.2 with execSpawn := r.2.execSpawn ++ [.cmd r.1] }, log := k.log ++ [ev] }

theorem update_cases (ev : Ev) (k : Core) :
    (∃ tag cmd ls, (tag, cmd, ls) ∈ k.prog ∧ update ev k = updateWith ev cmd ls k) ∨ update ev k = updateWith ev .done [] k := by
  unfold update
  simp only
  split
  · rename_i tag cmd ls hf
    exact Or.inl ⟨tag, cmd, ls, List.mem_of_find?_eq_some hf, rfl⟩
  · exact Or.inr rfl

theorem update_inv {J : World → Prop} (sp : ∀ w l, J w → J { w with execSpawn := l })
    (inst : ∀ env c w, J w → J (instantiate env c w).2) (ev : Ev) (k : Core) (h : J k.w) : J (update ev k).w := by
  rcases update_cases ev k with ⟨_, cmd, ls, _, e⟩ | e <;> rw [e] <;> exact sp _ _ (inst _ _ _ (sp _ _ h))

theorem processLoop_inv
    (upd : ∀ k ev rest, P k → k.w.coreEvents = ev :: rest →
      P (update ev { k with w := { k.w with coreEvents := rest } }))
    (ra : ∀ f k k', runAll f k = some k' → P k → P k') :
    ∀ f k k', processLoop f k = some k' → P k → P k'
  | 0, _, _, h, _ => by simp [processLoop] at h
  | f + 1, k, k', h, hk => by
    unfold processLoop at h
    split at h
    · simp only [Option.some.injEq] at h; subst h; exact hk
    · rename_i ev rest he
      split at h
      · cases h
      · rename_i k1 h1
        exact processLoop_inv upd ra f k1 k' h (ra _ _ k1 h1 (upd k ev rest hk he))

theorem process_inv
    (ra : ∀ f k k', runAll f k = some k' → P k → P k')
    (pl : ∀ f k k', processLoop f k = some k' → P k → P k')
    (take : ∀ k, P k → P { k with w := { k.w with coreEffects := [] } }) :
    ∀ k es k', process k = some (es, k') → P k → P k' := by
  intro k es k' h hk
  unfold process at h
  split at h
  · cases h
  · rename_i k1 h1
    split at h
    · cases h
    · rename_i k2 h2
      simp only [Option.some.injEq, Prod.mk.injEq] at h; obtain ⟨_, rfl⟩ := h; exact take k2 (pl _ k1 k2 h2 (ra _ k k1 h1 hk))

section build
variable {J : World → Prop}

mutual
theorem instantiate_inv (nc : ∀ env is w, J w → J (newCmd env is w).2) (so : ∀ cid env is w, J w → J (spawnOn cid env is w))
    (ab : ∀ w l, J w → J { w with aborts := l }) (env : Env) : (c : Cmd) → (w : World) → J w → J (instantiate env c w).2
  | .done, w, hw | .event _ _, w, hw | .notify _ _, w, hw | .req _ _ _, w, hw | .stream _ _ _, w, hw
  | .chain _ _ _ _ _, w, hw | .task _, w, hw => by
    simp only [instantiate]; exact nc env _ w hw
  | .thenC a b, w, hw => by
    simp only [instantiate]
    exact nc env _ _ (instantiate_inv nc so ab env b _ (instantiate_inv nc so ab env a w hw))
  | .andC a b, w, hw => by
    simp only [instantiate]
    exact so _ env _ _ (ab _ _ (instantiate_inv nc so ab env a _ (instantiate_inv nc so ab env b w hw)))
  | .all cs, w, hw => by
    simp only [instantiate]
    exact foldl_inv_mem _ _ (fun w _ _ h => so _ env _ w h) (nc env [] _ (instantiateAll_inv nc so ab env cs w hw))
  | .mapEf _ c, w, hw | .mapEv _ c, w, hw => by
    simp only [instantiate]; exact nc env _ _ (instantiate_inv nc so ab env c w hw)
  | .abortable _ c, w, hw => by
    simp only [instantiate]; exact ab _ _ (instantiate_inv nc so ab env c w hw)
theorem instantiateAll_inv (nc : ∀ env is w, J w → J (newCmd env is w).2)
    (so : ∀ cid env is w, J w → J (spawnOn cid env is w)) (ab : ∀ w l, J w → J { w with aborts := l }) (env : Env) :
    (cs : List Cmd) → (w : World) → J w → J (instantiateAll env cs w).2
  | [], w, hw => by simp only [instantiateAll]; exact hw
  | c :: cs, w, hw => by
    simp only [instantiateAll]
    exact instantiateAll_inv nc so ab env cs _ (instantiate_inv nc so ab env c w hw)
end

end build

end M.Rt

namespace M.Hosts
open M.Rt M.Bridge

theorem runSteps_inv {σ : Type} (step : σ → Action → Option (Obs × σ)) (P : σ → Prop)
    (hstep : ∀ s a o s', step s a = some (o, s') → P s → P s') :
    ∀ (acts : List Action) (s : σ) (os : List Obs) (s' : σ), runSteps step s acts = some (os, s') → P s → P s'
  | [], s, os, s', h, hp => by
    simp only [runSteps, Option.some.injEq, Prod.mk.injEq] at h
    obtain ⟨_, rfl⟩ := h; exact hp
  | a :: rest, s, os, s', h, hp => by
    unfold runSteps at h
    split at h
    · cases h
    · rename_i o s1 h1
      split at h
      · cases h
      · rename_i os1 s2 h2
        simp only [Option.some.injEq, Prod.mk.injEq] at h
        obtain ⟨_, rfl⟩ := h
        exact runSteps_inv step P hstep rest s1 os1 _ h2 (hstep s a o s1 h1 hp)

/-- what the shell can do to a world from outside: resolve a request, drop one, abort a command -/
structure ShellOps (J : World → Prop) : Prop where
  res : ∀ w r v, J w → J (resolveReq r v w).2.2
  ds : ∀ w l, J w → J (w.dropSender l)
  ab : ∀ w n, J w → J (doAbort n w)

theorem doAbort_inv {J : World → Prop} (ab : ∀ w c, J w → J (w.abortCmd c)) (n : Nat) (w : World) (hw : J w) :
    J (doAbort n w) := by
  unfold doAbort
  split
  · exact ab w _ hw
  · exact hw

theorem ShellOps.and {J K : World → Prop} (a : ShellOps J) (b : ShellOps K) : ShellOps fun w => J w ∧ K w :=
  ⟨fun w r v h => ⟨a.res w r v h.1, b.res w r v h.2⟩, fun w l h => ⟨a.ds w l h.1, b.ds w l h.2⟩,
    fun w n h => ⟨a.ab w n h.1, b.ab w n h.2⟩⟩

theorem ShellOps.dropReq {J : World → Prop} (ops : ShellOps J) (w : World) (r : Resolve) (hw : J w) :
    J (dropReq r w).2 := by
  unfold M.Rt.dropReq
  split
  · exact ops.ds w _ hw
  · exact ops.ds w _ hw
  · exact hw
  · exact hw

theorem shellResolve_inv {J : World → Prop} (ops : ShellOps J) {reqs k v w reqs' res w'}
    (h : shellResolve reqs k v w = some (reqs', res, w')) (hw : J w) : J w' := by
  unfold shellResolve at h
  split at h
  · cases h
  · rename_i e _
    simp only [Option.some.injEq, Prod.mk.injEq] at h
    obtain ⟨_, _, rfl⟩ := h
    exact ops.res w e.res v hw

theorem shellDrop_inv {J : World → Prop} (ops : ShellOps J) {reqs k w reqs' w'}
    (h : shellDrop reqs k w = some (reqs', w')) (hw : J w) : J w' := by
  unfold shellDrop at h
  split at h
  · cases h
  · rename_i e _
    simp only [Option.some.injEq, Prod.mk.injEq] at h
    obtain ⟨_, rfl⟩ := h
    exact ops.dropReq w e.res hw

/-- The direct host, generically.  `J cid` is a predicate on the world for the command the test holds: preserved by
    settling that command, by taking its queued outputs and by the shell, it holds in every state reached. -/
structure DirectOps (J : Nat → World → Prop) : Prop where
  settle : ∀ cid w w', runUntilSettled cid w = some w' → J cid w → J cid w'
  effs : ∀ cid w, J cid w → J cid (w.modCmd cid fun c => { c with effects := [] })
  evs : ∀ cid w, J cid w → J cid (w.modCmd cid fun c => { c with events := [] })
  shell : ∀ cid, ShellOps (J cid)

section direct
variable {J : Nat → World → Prop}

theorem takeEffects_inv (ops : DirectOps J) {cid w es w'} (h : takeEffects cid w = some (es, w')) (hw : J cid w) :
    J cid w' := by
  unfold takeEffects at h
  split at h
  · cases h
  · rename_i w1 hs
    simp only [Option.some.injEq, Prod.mk.injEq] at h; obtain ⟨_, rfl⟩ := h
    exact ops.effs cid w1 (ops.settle cid w w1 hs hw)

theorem takeEvents_inv (ops : DirectOps J) {cid w es w'} (h : takeEvents cid w = some (es, w')) (hw : J cid w) :
    J cid w' := by
  unfold takeEvents at h
  split at h
  · cases h
  · rename_i w1 hs
    simp only [Option.some.injEq, Prod.mk.injEq] at h; obtain ⟨_, rfl⟩ := h
    exact ops.evs cid w1 (ops.settle cid w w1 hs hw)

theorem isDone_inv (ops : DirectOps J) {cid w dn w'} (h : isDone cid w = some (dn, w')) (hw : J cid w) :
    J cid w' := by
  unfold isDone at h
  split at h
  · cases h
  · rename_i w1 hs
    simp only [Option.some.injEq, Prod.mk.injEq] at h; obtain ⟨_, rfl⟩ := h
    exact ops.settle cid w w1 hs hw

/-- an observation takes the effects, takes the events and asks `is_done`: the last thing it does is settle, so what
    settling establishes (`Q`) holds of the state it leaves -/
theorem Direct.observe_post {Q : Nat → World → Prop} (ops : DirectOps J)
    (post : ∀ cid w w', runUntilSettled cid w = some w' → J cid w → Q cid w') (res : String) (d : Direct) (o : Obs)
    (d' : Direct) (h : d.observe res = some (o, d')) (hw : J d.cid d.w) : d'.cid = d.cid ∧ J d.cid d'.w ∧ Q d.cid d'.w := by
  unfold Direct.observe at h
  cases h1 : takeEffects d.cid d.w with
  | none => simp [h1] at h
  | some p1 =>
    cases h2 : takeEvents d.cid p1.2 with
    | none => simp [h1, h2] at h
    | some p2 =>
      have k2 := takeEvents_inv ops h2 (takeEffects_inv ops h1 hw)
      cases h3 : isDone d.cid p2.2 with
      | none => simp [h1, h2, h3] at h
      | some p3 =>
        simp [h1, h2, h3] at h
        obtain ⟨_, rfl⟩ := h
        refine ⟨rfl, isDone_inv ops h3 k2, ?_⟩
        unfold isDone at h3
        split at h3
        · cases h3
        · rename_i w1 hs
          cases h3
          exact post _ _ _ hs k2

theorem Direct.observe_inv (ops : DirectOps J) (res : String) (d : Direct) (o : Obs) (d' : Direct)
    (h : d.observe res = some (o, d')) (hw : J d.cid d.w) : d'.cid = d.cid ∧ J d.cid d'.w :=
  have k := Direct.observe_post (Q := fun _ _ => True) ops (fun _ _ _ _ _ => trivial) res d o d' h hw
  ⟨k.1, k.2.1⟩

theorem Direct.step_obs (ops : DirectOps J) (d : Direct) (a : Action) (o : Obs) (d' : Direct)
    (h : d.step a = some (o, d')) (hw : J d.cid d.w) : ∃ res d0, d0.cid = d.cid ∧ J d.cid d0.w ∧ Direct.observe res d0 = some (o, d') := by
  unfold Direct.step at h
  cases a with
  | res k v =>
    simp only at h
    split at h
    · exact ⟨_, d, rfl, hw, h⟩
    · rename_i reqs res w1 hr
      exact ⟨_, { d with w := w1, reqs := reqs }, rfl, shellResolve_inv (ops.shell d.cid) hr hw, h⟩
  | drop k =>
    simp only at h
    split at h
    · exact ⟨_, d, rfl, hw, h⟩
    · rename_i reqs w1 hr
      exact ⟨_, { d with w := w1, reqs := reqs }, rfl, shellDrop_inv (ops.shell d.cid) hr hw, h⟩
  | abort n => exact ⟨_, { d with w := doAbort n d.w }, rfl, (ops.shell d.cid).ab d.w n hw, h⟩
  | poll => exact ⟨_, d, rfl, hw, h⟩
  | ev _ _ => cases h
  | rawRes _ _ _ => cases h
  | rawEv _ _ => cases h

theorem runDirect_post {Q : Nat → World → Prop} (ops : DirectOps J)
    (post : ∀ cid w w', runUntilSettled cid w = some w' → J cid w → Q cid w') (c : Cmd) (canon : Bool)
    (h0 : J (Direct.new c canon).cid (Direct.new c canon).w)
    (acts : List Action) (os : List Obs) (d : Direct) (h : runDirect c canon acts = some (os, d)) :
    d.cid = (Direct.new c canon).cid ∧ J d.cid d.w ∧ Q d.cid d.w := by
  unfold runDirect at h
  cases h1 : (Direct.new c canon).observe "-" with
  | none => simp [h1] at h
  | some p1 =>
    have k1 := Direct.observe_post ops post _ _ p1.1 p1.2 h1 h0
    cases h2 : runSteps Direct.step p1.2 acts with
    | none => simp [h1, h2] at h
    | some p2 =>
      simp [h1, h2] at h
      obtain ⟨_, rfl⟩ := h
      exact runSteps_inv Direct.step (fun d => d.cid = (Direct.new c canon).cid ∧ J d.cid d.w ∧ Q d.cid d.w)
        (fun s a o s' hs hp => by
          obtain ⟨res, d0, e0, k0, ho⟩ := Direct.step_obs ops s a o s' hs hp.2.1
          obtain ⟨e, k, q⟩ := Direct.observe_post ops post res d0 o s' ho (by rw [e0]; exact k0)
          rw [e0] at e k q
          exact ⟨e.trans hp.1, by rw [e]; exact k, by rw [e]; exact q⟩)
        acts p1.2 p2.1 p2.2 h2 ⟨k1.1, by rw [k1.1]; exact k1.2.1, by rw [k1.1]; exact k1.2.2⟩

theorem runDirect_inv (ops : DirectOps J) (c : Cmd) (canon : Bool)
    (h0 : J (Direct.new c canon).cid (Direct.new c canon).w)
    (acts : List Action) (os : List Obs) (d : Direct) (h : runDirect c canon acts = some (os, d)) :
    d.cid = (Direct.new c canon).cid ∧ J d.cid d.w :=
  have k := runDirect_post (Q := fun _ _ => True) ops (fun _ _ _ _ _ => trivial) c canon h0 acts os d h
  ⟨k.1, k.2.1⟩

end direct

/-- The Core host, generically: the five operations every path through `CoreHost.step` and `BridgeHost.step` is
    made of. -/
structure CoreOps (P : Core → Prop) : Prop where
  pe : ∀ ev k es k', M.Rt.processEvent ev k = some (es, k') → P k → P k'
  pr : ∀ k es k', process k = some (es, k') → P k → P k'
  res : ∀ k r v, P k → P { k with w := (resolveReq r v k.w).2.2 }
  ds : ∀ k l, P k → P { k with w := k.w.dropSender l }
  ab : ∀ k n, P k → P { k with w := doAbort n k.w }

section
variable {P Q : Core → Prop}

theorem CoreOps.shell (ops : CoreOps P) (k : Core) : ShellOps (fun w => P { k with w := w }) where
  res := fun w r v hw => ops.res { k with w := w } r v hw
  ds := fun w l hw => ops.ds { k with w := w } l hw
  ab := fun w n hw => ops.ab { k with w := w } n hw

/-! Every call into the Core host ENDS with the no-op probe event: what `process_event` establishes from an invariant holds
    of the state each step leaves. -/

theorem CoreHost.afterCall_post (pe : ∀ ev k es k', M.Rt.processEvent ev k = some (es, k') → P k → Q k')
    (res : String) (effs : List Eff) (oldLen : Nat) (trigger : Option Ev) (h : CoreHost) (o : Obs) (h' : CoreHost)
    (hc : CoreHost.afterCall res effs oldLen trigger h = some (o, h')) (hw : P h.k) : Q h'.k := by
  unfold CoreHost.afterCall at hc
  simp only [CoreHost.record] at hc
  cases hp : processEvent ⟨probeTag, 0⟩ h.k with
  | none => simp [hp] at hc
  | some p =>
    obtain ⟨peffs, k⟩ := p
    simp [hp] at hc
    obtain ⟨_, rfl⟩ := hc
    exact pe _ _ _ _ hp hw

theorem CoreHost.step_post (ops : CoreOps P) (pe : ∀ ev k es k', M.Rt.processEvent ev k = some (es, k') → P k → Q k')
    (h : CoreHost) (a : Action) (o : Obs) (h' : CoreHost) (hs : h.step a = some (o, h')) (hw : P h.k) : Q h'.k := by
  have ac := fun res effs oldLen trigger h1 => CoreHost.afterCall_post pe res effs oldLen trigger h1 o h'
  unfold CoreHost.step at hs
  simp only at hs
  cases a with
  | ev tag v =>
    simp only at hs
    cases hp : processEvent ⟨tag, v⟩ h.k with
    | none => simp [hp] at hs
    | some p =>
      obtain ⟨effs, k⟩ := p
      simp [hp] at hs
      exact ac _ _ _ _ _ hs (ops.pe _ _ _ _ hp hw)
  | res kk v =>
    simp only at hs
    split at hs
    · exact ac _ _ _ _ _ hs hw
    · rename_i reqs res w1 hr
      have k1 : P { h.k with w := w1 } := shellResolve_inv (ops.shell h.k) hr hw
      split at hs
      · split at hs
        · cases hs
        · rename_i effs k2 hpr
          exact ac _ _ _ _ _ hs (ops.pr _ _ _ hpr k1)
      · exact ac _ _ _ _ _ hs k1
  | drop kk =>
    simp only at hs
    split at hs
    · exact ac _ _ _ _ _ hs hw
    · rename_i reqs w1 hr
      exact ac _ _ _ _ _ hs (shellDrop_inv (ops.shell h.k) hr hw)
  | abort n => exact ac _ _ _ _ _ hs (ops.ab h.k n hw)
  | poll => exact ac _ _ _ _ _ hs hw
  | rawRes _ _ _ => simp at hs
  | rawEv _ _ => simp at hs

end

theorem CoreHost.step_inv {P : Core → Prop} (ops : CoreOps P) (h : CoreHost) (a : Action) (o : Obs) (h' : CoreHost)
    (hs : h.step a = some (o, h')) (hw : P h.k) : P h'.k :=
  CoreHost.step_post ops ops.pe h a o h' hs hw

theorem CoreOps.of_shell {J : World → Prop} (sh : ShellOps J)
    (pe : ∀ ev k es k', M.Rt.processEvent ev k = some (es, k') → J k.w → J k'.w)
    (pr : ∀ k es k', process k = some (es, k') → J k.w → J k'.w) : CoreOps (fun k => J k.w) :=
  ⟨pe, pr, fun k r v h => sh.res k.w r v h, fun k l h => sh.ds k.w l h, fun k n h => sh.ab k.w n h⟩

theorem runCore_inv {P : Core → Prop} (ops : CoreOps P) (prog : Prog) (h0 : P ({ prog := prog } : Core)) (canon : Bool)
    (acts : List Action) (os : List Obs) (h : CoreHost) (hr : runCore prog canon acts = some (os, h)) : P h.k := by
  unfold runCore at hr
  exact runSteps_inv CoreHost.step (fun h => P h.k) (CoreHost.step_inv ops) acts _ os h hr h0

end M.Hosts
