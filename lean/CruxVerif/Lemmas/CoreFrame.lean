/-
Frames of a poll of a HOST-FREE block whose sink is the Core (a legacy capability task on the QueuingExecutor):
  * `T`: no command's task slab or spawn queue changes;
  * `XL`, and its weakening `XH`: whatever it adds to the executor's spawn queue is a host-free legacy task.
-/
import CruxVerif.Lemmas.XFrame
import CruxVerif.Lemmas.PollFrame
namespace M.Rt

/-- the task slabs and spawn queues of all commands -/
def T (w : World) : List (Slab Task × List Task) := w.cmds.map fun c => (c.tasks, c.spawnQ)

theorem T_modCmd (w : World) (c : Nat) (f : CmdSt → CmdSt) (hf : ∀ x, (f x).tasks = x.tasks)
    (hs : ∀ x, (f x).spawnQ = x.spawnQ) : T (w.modCmd c f) = T w := by
  unfold T World.modCmd
  exact map_modifyNth_same _ f (fun a => by simp [hf, hs]) w.cmds c

@[simp] theorem T_newLeaf (w : World) (k : Option Waker) (lg : Bool) : T (w.newLeaf k lg).2 = T w := rfl
@[simp] theorem T_newMeta (w : World) : T w.newMeta.2 = T w := rfl
@[simp] theorem T_sinkEffect (w : World) (e : Eff) : T (w.sinkEffect .core e) = T w := rfl
@[simp] theorem T_sinkEvent (w : World) (e : Ev) : T (w.sinkEvent .core e) = T w := rfl

@[simp] theorem T_wake (f : Nat) (wk : Waker) (w : World) : T (wake f wk w) = T w :=
  wake_inv (J := fun w1 => T w1 = T w)
    (fun w1 c t h => (T_modCmd w1 c (fun c => { c with ready := c.ready ++ [t] }) (fun _ => rfl) (fun _ => rfl)).trans h)
    (fun w1 c h => (T_modCmd w1 c (fun c => { c with waker := none }) (fun _ => rfl) (fun _ => rfl)).trans h)
    (fun _ _ h => h) (fun _ _ h => h) (fun _ _ h => h) f wk w rfl

@[simp] theorem T_World_wake (w : World) (wk : Waker) : T (w.wake wk) = T w := T_wake _ wk w

@[simp] theorem T_abortCmd (w : World) (c : Nat) : T (w.abortCmd c) = T w :=
  World.abortCmd_inv (J := fun w1 => T w1 = T w) (fun _ _ h => h)
    (fun w1 h => (T_modCmd w1 c (fun x => { x with waker := none }) (fun _ => rfl) (fun _ => rfl)).trans h) (fun w1 wk h => (T_World_wake w1 wk).trans h) w rfl

theorem cmds_dropBlock (dc : Nat → World → World) : (b : Block) → (w : World) → hostFreeB b = true → (dropBlock dc b w).cmds = w.cmds :=
  fun b w h => dropBlock_hf_inv (J := fun w' => w'.cmds = w.cmds) (fun _ _ k => k) b w h rfl

theorem cmds_dropPend (dc : Nat → World → World) : (p : Pend) → (w : World) → hostFreeP p = true → (dropPend dc p w).cmds = w.cmds :=
  fun p w h => dropPend_hf_inv (J := fun w' => w'.cmds = w.cmds) (fun _ _ k => k) p w h rfl

def execHF : ExecTask → Bool
  | .cmd _ => true
  | .legacy b => hostFreeB b

/-- a host-free legacy task (what a legacy task's own `spawn` may add to the executor's spawn queue) -/
def legacyHF : ExecTask → Bool
  | .cmd _ => false
  | .legacy b => hostFreeB b


/-- whatever is new in the executor's spawn queue is a hosted command or a host-free legacy task -/
def XH (w w' : World) : Prop := ∀ t, t ∈ w'.execSpawn → t ∈ w.execSpawn ∨ execHF t = true

theorem XH.refl (w : World) : XH w w := fun _ h => Or.inl h
theorem XH.trans {w1 w2 w3 : World} (h12 : XH w1 w2) (h23 : XH w2 w3) : XH w1 w3 := by
  intro t ht
  rcases h23 t ht with h | h
  · exact h12 t h
  · exact Or.inr h
theorem XH.of_eq {w w' : World} (h : w'.execSpawn = w.execSpawn) : XH w w' := by
  intro t ht; rw [h] at ht; exact Or.inl ht

/-- the same with `legacyHF`: nothing new is a hosted command -/
def XL (w w' : World) : Prop := ∀ t, t ∈ w'.execSpawn → t ∈ w.execSpawn ∨ legacyHF t = true

theorem XL.xh {w w' : World} (h : XL w w') : XH w w' := fun t ht =>
  (h t ht).imp_right (by cases t <;> simp [legacyHF, execHF])

theorem es_of_X {w w' : World} (h : X w' = X w) : w'.execSpawn = w.execSpawn := congrArg (·.1) h

theorem es_wake (w : World) (wk : Waker) : (w.wake wk).execSpawn = w.execSpawn := es_of_X (X_World_wake w wk)
theorem es_abortCmd (w : World) (c : Nat) : (w.abortCmd c).execSpawn = w.execSpawn := es_of_X (X_abortCmd w c)
theorem es_dropBlock (w : World) (b : Block) : (w.dropBlock b).execSpawn = w.execSpawn := es_of_X (X_World_dropBlock w b)
theorem es_dropCmd (w : World) (c : Nat) : (w.dropCmd c).execSpawn = w.execSpawn := es_of_X (X_World_dropCmd w c)

theorem mem_es_spawn (l : List ExecTask) (b : Block) (t : ExecTask) (h : t ∈ l ++ [ExecTask.legacy b]) :
    t ∈ l ∨ t = .legacy b := by simpa using h

/-- what one poll of a host-free legacy task leaves alone: every command's slab and spawn queue, and the executor's spawn
    queue up to new host-free legacy tasks -/
def CGood (pn : Waker → Nat → World → Option (NextRes × World)) (f : Nat) : Prop :=
  ∀ wk b w r w', pollBlock pn f wk .core b w = some (r, w') → hostFreeB b = true → T w' = T w ∧ XL w w'

theorem cgood_ops (w0 : World) (wk : Waker) : PollOps wk .core fun w => T w = T w0 ∧ XL w0 w := by
  have same : ∀ {w w' : World}, T w' = T w → w'.execSpawn = w.execSpawn → T w = T w0 ∧ XL w0 w → T w' = T w0 ∧ XL w0 w' :=
    fun hT he h => ⟨hT.trans h.1, fun t ht => h.2 t (he ▸ ht)⟩
  exact {
    event := fun w e => same (T_sinkEvent w e) rfl
    effect := fun w e => same (T_sinkEffect w e) rfl
    newLeaf := fun w lg => same (T_newLeaf w _ lg) rfl
    spawn := fun _ _ _ hs => nomatch hs
    legacy := fun w b _ hb h => ⟨h.1, fun t ht => (mem_es_spawn _ b t ht).elim (h.2 t) fun e => Or.inr (e ▸ hb)⟩
    abortTask := fun w s => same rfl rfl
    abortCmd := fun w c => same (T_abortCmd w c) (es_abortCmd w c)
    dropReceiver := fun w l => same rfl rfl
    setWaker := fun w l _ => same rfl rfl
    setQueue := fun w l q => same rfl rfl
    join := fun w s => same rfl rfl
    wake := fun w => same (T_World_wake w wk) (es_wake w wk) }

theorem pollBlock_cgood (pn) : ∀ f, CGood pn f := fun f wk b w r w' h hf =>
  pollBlock_inv pn (cgood_ops w wk) f b w r w' h hf ⟨rfl, fun _ ht => Or.inl ht⟩

end M.Rt
