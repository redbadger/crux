/- Freshness through the command executor (run_task, run_until_settled, poll_next, the knot on the nesting depth), through
   building commands, the shell's operations and the Core; it holds in every world a host can reach: direct host and Core
   host, every program, every history. -/
import CruxVerif.Lemmas.FreshPoll
import CruxVerif.Lemmas.RtExec
namespace M.Rt

def PollOk (poll : Waker → Sink → Block → World → Option (PollRes × World)) : Prop :=
  ∀ wk sink b w r w', poll wk sink b w = some (r, w') → wkB w.nextSerial wk → SOk w → Keeps w w'

def RunOk (runTask : Nat → Nat → World → Option (TaskState × World)) : Prop :=
  ∀ cid tid w st w', runTask cid tid w = some (st, w') → SOk w → Keeps w w'

def SettleOk (settle : Nat → World → Option World) : Prop :=
  ∀ cid w w', settle cid w = some w' → SOk w → Keeps w w'

theorem Keeps.filter_woken {w w1 : World} (k : Keeps w w1) (p : Nat → Bool) :
    Keeps w { w1 with woken := w1.woken.filter p } :=
  k.same rfl ⟨k.1.leaves, k.1.metas, k.1.cmds, fun s hs => k.1.woken s (List.mem_filter.mp hs).1⟩

/-- `run_task` hands out a FRESH serial: the counter itself, which nothing in a good world mentions -/
theorem runTaskF_ok (poll) (hp : PollOk poll) : RunOk (runTaskF poll) := by
  intro cid tid w st w' h hw
  have k0 : Keeps w { w with nextSerial := w.nextSerial + 1 } :=
    ⟨(SOkN.mono (Nat.le_succ _) hw).of_same rfl rfl rfl rfl, Nat.le_succ _⟩
  refine runTaskF_ind (Q := fun _ w' => Keeps w w') (fun _ => .refl hw) (fun _ _ _ => .refl hw)
    (fun t env w1 _ _ hpoll => k0.step (hp _ _ _ _ _ _ hpoll (Nat.lt_succ_self _))) (fun t b w1 _ _ hpoll => ?_) h
  have k1 : Keeps w (parkTask cid tid t w.nextSerial b w1) :=
    ((k0.step (hp _ _ _ _ _ _ hpoll (Nat.lt_succ_self _))).modCmd cid
      (fun c => { c with tasks := c.tasks.set tid { t with fut := b } }) fun _ hx => hx).filter_woken _
  exact ⟨fun _ _ => k1, fun _ => k1⟩

theorem spawnNewTasks_keeps (cid : Nat) (w : World) (hw : SOk w) : Keeps w (spawnNewTasks cid w) :=
  foldl_inv_mem (J := Keeps w) _ _ (fun _ _ _ k => k.modCmd cid _ fun _ hx => hx)
    ((Keeps.refl hw).modCmd cid _ fun _ hx => hx)

theorem finishTask_keeps (cid tid : Nat) (w : World) (hw : SOk w) : Keeps w (finishTask cid tid w) := by
  unfold finishTask
  simp only
  split
  · exact .refl hw
  · rename_i t tasks _
    have h1 : SOkN w.nextSerial (w.modCmd cid fun c => { c with tasks := tasks }) := SOkN.modCmd hw cid _ fun _ hx => hx
    have h2 := h1.modMeta t.serial (fun m => { m with finished := true, joinWakers := [] }) fun _ _ _ hk => nomatch hk
    refine .of_step hw ?_ ((SOkN.wakeAll _ _ h2 (h1.meta_wakers t.serial)).World_dropTask t)
    rw [ns_World_dropTask, ns_wakeAll]; rfl

theorem runUntilSettledF_ok (runTask) (hr : RunOk runTask) : SettleOk (runUntilSettledF runTask) := by
  intro cid w w' h hw
  refine runUntilSettledF_inv (J := Keeps w) ?_ (settleLoop_inv ?_ (drainReady_inv ?_ ?_ ?_)) w w' h (Keeps.refl hw)
  · intro w1 _ k
    refine Keeps.modCmd (foldl_inv_mem (J := Keeps w) _ _ (fun b t _ kb => kb.step fun hb => ?_) k) cid _ fun _ hx => hx
    exact Keeps.of_step hb (ns_World_dropTask b t) (SOkN.World_dropTask hb t)
  · exact fun w1 k => k.step (spawnNewTasks_keeps cid w1)
  · exact fun w1 rest k => k.modCmd cid _ fun _ hx => hx
  · exact fun w1 tid st w2 hrt k => k.step (hr _ _ _ _ _ hrt)
  · exact fun w1 tid k => k.step (finishTask_keeps cid tid w1)

theorem pollNextF_ok (settle) (hs : SettleOk settle) : PnOk (pollNextF settle) := by
  intro wk cid w r w' h hwk hw
  refine pollNextF_inv (J := Keeps w) ?_ (fun w1 w2 h1 k => k.step (hs _ _ _ h1)) ?_ ?_ w r w' h (Keeps.refl hw)
  · exact fun w1 k => k.modCmd cid _ fun _ _ => wkB_mono k.2 hwk
  · exact fun w1 es k => k.modCmd cid _ fun _ hx => hx
  · exact fun w1 es k => k.modCmd cid _ fun _ hx => hx

theorem pollAt_ok : ∀ d, PollOk (pollAt d) :=
  pollAt_ind (fun wk sink b w r w' h => by cases h) fun poll hp wk sink b w r w' h hwk hw =>
    pollBlock_fgood _ (pollNextF_ok _ (runUntilSettledF_ok _ (runTaskF_ok _ hp))) loopFuel wk sink b w r w' h hwk hw

theorem runTask_ok : RunOk runTask := runTaskF_ok _ (pollAt_ok depthFuel)
theorem runUntilSettled_ok : SettleOk runUntilSettled := runUntilSettledF_ok _ runTask_ok
theorem pollNext_ok : PnOk pollNext := pollNextF_ok _ runUntilSettled_ok


theorem Keeps.of_same {w w1 w2 : World} (k : Keeps w w1) (hn : w2.nextSerial = w1.nextSerial) (hl : w2.leaves = w1.leaves)
    (hm : w2.metas = w1.metas) (hc : w2.cmds = w1.cmds) (hw : w2.woken = w1.woken) : Keeps w w2 :=
  k.same hn (SOkN.of_same k.1 hl hm hc hw)

theorem Keeps.newCmd {w w1 : World} (k : Keeps w w1) (env : Env) (is : List Instr) : Keeps w (newCmd env is w1).2 := by
  have h1 : SOkN w1.nextSerial w1.newMeta.2 := SOkN.newMeta k.1
  refine k.same rfl ⟨h1.leaves, h1.metas, fun c hc => ?_, h1.woken⟩
  rcases List.mem_append.mp hc with hc | hc
  · exact h1.cmds c hc
  · rw [List.mem_singleton.mp hc]; trivial

theorem Keeps.spawnOn {w w1 : World} (k : Keeps w w1) (cid : Nat) (env : Env) (is : List Instr) :
    Keeps w (spawnOn cid env is w1) :=
  k.same rfl (SOkN.modCmd (SOkN.newMeta k.1) cid _ fun _ hx => hx)

theorem instantiate_keeps (env : Env) : (c : Cmd) → (w : World) → SOk w → Keeps w (instantiate env c w).2 :=
  fun c w hw => instantiate_inv (J := Keeps w) (fun env is _ k => k.newCmd env is) (fun cid env is _ k => k.spawnOn cid env is)
    (fun _ _ k => k.of_same rfl rfl rfl rfl rfl) env c w (.refl hw)

theorem instantiateAll_keeps (env : Env) : (cs : List Cmd) → (w : World) → SOk w → Keeps w (instantiateAll env cs w).2 :=
  fun cs w hw => instantiateAll_inv (J := Keeps w) (fun env is _ k => k.newCmd env is)
    (fun cid env is _ k => k.spawnOn cid env is) (fun _ _ k => k.of_same rfl rfl rfl rfl rfl) env cs w (.refl hw)

theorem SOk_empty : SOk ({} : World) := by
  refine ⟨?_, ?_, ?_, ?_⟩ <;> (intro _ h; cases h)

end M.Rt

namespace M.Hosts
open M.Rt

theorem doAbort_keeps (n : Nat) (w : World) (hw : SOk w) : Keeps w (doAbort n w) :=
  doAbort_inv (J := Keeps w) (fun w1 c k => k.same (ns_abortCmd w1 c) (SOkN.abortCmd k.1 c)) n w (.refl hw)

theorem keeps_shellOps (w₀ : World) : ShellOps (Keeps w₀) where
  res w r v k := resolveReq_inv (J := Keeps w₀) (fun w l v _ k => k.same (ns_deliver w l v) (SOkN.deliver k.1 l v))
    (fun _ l k => k.dropSender l) r v w k
  ds _ l k := k.dropSender l
  ab w n k := k.step (doAbort_keeps n w)

theorem keeps_directOps (w₀ : World) : DirectOps (fun _ => Keeps w₀) where
  settle cid w w' h k := k.step (runUntilSettled_ok cid w w' h)
  effs cid _ k := k.modCmd cid _ fun _ hx => hx
  evs cid _ k := k.modCmd cid _ fun _ hx => hx
  shell _ := keeps_shellOps w₀

end M.Hosts

namespace M.Rt
open M.Hosts

theorem resolveReq_keeps (r : Resolve) (v : Val) (w : World) (hw : SOk w) : Keeps w (resolveReq r v w).2.2 :=
  (keeps_shellOps w).res w r v (.refl hw)

theorem dropReq_keeps (r : Resolve) (w : World) (hw : SOk w) : Keeps w (dropReq r w).2 :=
  (keeps_shellOps w).dropReq w r (.refl hw)

theorem takeEffects_keeps (cid : Nat) (w : World) (es : List Eff) (w' : World) (h : takeEffects cid w = some (es, w'))
    (hw : SOk w) : Keeps w w' :=
  takeEffects_inv (keeps_directOps w) h (.refl hw)

theorem takeEvents_keeps (cid : Nat) (w : World) (es : List Ev) (w' : World) (h : takeEvents cid w = some (es, w'))
    (hw : SOk w) : Keeps w w' :=
  takeEvents_inv (keeps_directOps w) h (.refl hw)

theorem isDone_keeps (cid : Nat) (w : World) (d : Bool) (w' : World) (h : isDone cid w = some (d, w')) (hw : SOk w) :
    Keeps w w' :=
  isDone_inv (keeps_directOps w) h (.refl hw)

theorem spawnerLoop_keeps (f etid cid : Nat) (w : World) (d : Bool) (w' : World)
    (h : spawnerLoop f etid cid w = some (d, w')) (hw : SOk w) : Keeps w w' :=
  spawnerLoop_inv (J := Keeps w) (fun _ _ _ hp k => k.step (pollNext_ok _ _ _ _ _ hp trivial))
    (fun _ e k => k.same rfl (SOkN.sinkEffect k.1 .core e)) (fun _ e k => k.same rfl (SOkN.sinkEvent k.1 .core e))
    (fun w1 k => k.same (ns_World_dropCmd w1 cid) (SOkN.World_dropCmd k.1 cid)) f w d w' h (.refl hw)

theorem execRunTask_keeps (etid : Nat) (k : Core) (st : RunTask) (k' : Core) (h : execRunTask etid k = some (st, k'))
    (hw : SOk k.w) : Keeps k.w k'.w :=
  execRunTask_ind (Q := fun _ k' => Keeps k.w k'.w) (fun _ => .refl hw)
    (fun _ _ _ hs => spawnerLoop_keeps _ _ _ _ _ _ hs hw) (fun _ _ _ hs => spawnerLoop_keeps _ _ _ _ _ _ hs hw)
    (fun _ _ _ _ hp => pollAt_ok depthFuel _ _ _ _ _ _ hp trivial hw)
    (fun _ _ _ _ hp => pollAt_ok depthFuel _ _ _ _ _ _ hp trivial hw) h

section core
variable {w₀ : World}

theorem Keeps.runAll : ∀ f k k', runAll f k = some k' → Keeps w₀ k.w → Keeps w₀ k'.w :=
  runAll_inv
    (execDrainSpawn_inv fun k _ rest _ _ kk _ hr =>
      (kk.of_same (w2 := { k.w with execSpawn := rest }) rfl rfl rfl rfl rfl).step (execRunTask_keeps _ _ _ _ hr))
    (execDrainReady_inv fun k _ rest _ _ kk _ hr =>
      (kk.of_same (w2 := { k.w with execReady := rest }) rfl rfl rfl rfl rfl).step (execRunTask_keeps _ _ _ _ hr))

theorem Keeps.update (ev : Ev) (k : Core) (kk : Keeps w₀ k.w) : Keeps w₀ (update ev k).w :=
  update_inv (fun _ _ k => k.of_same rfl rfl rfl rfl rfl) (fun env c w k => k.step (instantiate_keeps env c w)) ev k kk

theorem Keeps.process : ∀ k es k', process k = some (es, k') → Keeps w₀ k.w → Keeps w₀ k'.w :=
  process_inv Keeps.runAll
    (processLoop_inv (fun k ev rest kk _ => Keeps.update ev _ (kk.of_same (w2 := { k.w with coreEvents := rest }) rfl rfl rfl rfl rfl))
      Keeps.runAll)
    (fun _ kk => kk.of_same rfl rfl rfl rfl rfl)

end core

theorem process_keeps (k : Core) (es : List Eff) (k' : Core) (h : process k = some (es, k')) (hw : SOk k.w) :
    Keeps k.w k'.w :=
  Keeps.process k es k' h (.refl hw)

theorem processEvent_keeps (ev : Ev) (k : Core) (es : List Eff) (k' : Core) (h : processEvent ev k = some (es, k'))
    (hw : SOk k.w) : Keeps k.w k'.w :=
  Keeps.process _ es k' h (Keeps.update ev k (.refl hw))

end M.Rt

namespace M.Hosts
open M.Rt

theorem SOk_shellOps : ShellOps SOk :=
  ⟨fun w r v h => ((keeps_shellOps w).res w r v (.refl h)).1, fun w l h => ((keeps_shellOps w).ds w l (.refl h)).1,
    fun w n h => ((keeps_shellOps w).ab w n (.refl h)).1⟩

theorem SOk_coreOps : CoreOps (fun k => SOk k.w) :=
  CoreOps.of_shell SOk_shellOps (fun ev k es k' h hk => (processEvent_keeps ev k es k' h hk).1)
    (fun k es k' h hk => (process_keeps k es k' h hk).1)

theorem runDirect_fresh (c : Cmd) (canon : Bool) (acts : List Action) (os : List Obs) (d : Direct)
    (h : runDirect c canon acts = some (os, d)) : SOk d.w :=
  (runDirect_inv (keeps_directOps _) c canon (.refl (instantiate_keeps {} c {} SOk_empty).1) acts os d h).2.1

theorem runCore_fresh (prog : Prog) (canon : Bool) (acts : List Action) (os : List Obs) (h : CoreHost)
    (hr : runCore prog canon acts = some (os, h)) : SOk h.k.w :=
  runCore_inv SOk_coreOps prog SOk_empty canon acts os h hr

end M.Hosts
