/-
The hosting forest is well-founded by command index: every command a block of command `p` hosts has an index BELOW `p`
(`instantiate` builds hosted commands before their hosts). Consequence (HostLtExec.lean): whatever a poll of a task of `p`
runs or drops recursively are commands below `p` — it never touches the task slab of `p` itself or of any command above.
-/
import CruxVerif.Lemmas.K2Defs
namespace M.Rt

mutual
def hostsLtI (p : Nat) : Instr → Bool
  | .host c _ => decide (c < p)
  | .stream _ _ _ _ body => hostsLtIs p body
  | .spawn _ body => hostsLtIs p body
  | .handoff _ _ _ body => hostsLtIs p body
  | .join a b => hostsLtIs p a && hostsLtIs p b
  | .select a b => hostsLtIs p a && hostsLtIs p b
  | _ => true
def hostsLtIs (p : Nat) : List Instr → Bool
  | [] => true
  | i :: is => hostsLtI p i && hostsLtIs p is
end

mutual
def hostsLtB (p : Nat) : Block → Bool
  | .mk _ cur rest => hostsLtP p cur && hostsLtIs p rest
def hostsLtP (p : Nat) : Pend → Bool
  | .host c _ => decide (c < p)
  | .streamWait _ _ _ _ body => hostsLtIs p body
  | .streamBody _ _ _ _ body inner => hostsLtIs p body && hostsLtB p inner
  | .join a b _ _ => hostsLtB p a && hostsLtB p b
  | .select a b => hostsLtB p a && hostsLtB p b
  | _ => true
end

mutual
theorem hostsLtI_of_free (p : Nat) : (i : Instr) → hostFreeI i = true → hostsLtI p i = true
  | .host _ _, h => nomatch h
  | .stream _ _ _ _ body, h | .spawn _ body, h | .handoff _ _ _ body, h => hostsLtIs_of_free p body h
  | .join a b, h | .select a b, h =>
    have h : hostFreeIs a = true ∧ hostFreeIs b = true := Bool.and_eq_true_iff.mp h
    Bool.and_eq_true_iff.mpr ⟨hostsLtIs_of_free p a h.1, hostsLtIs_of_free p b h.2⟩
  | .emit _ _, _ | .notify _ _, _ | .req _ _ _, _ | .await _, _ | .abortTask _, _ | .selfwake _, _ | .abortCmd _, _ => rfl
theorem hostsLtIs_of_free (p : Nat) : (is : List Instr) → hostFreeIs is = true → hostsLtIs p is = true
  | [], _ => rfl
  | i :: is, h =>
    have h : hostFreeI i = true ∧ hostFreeIs is = true := Bool.and_eq_true_iff.mp h
    Bool.and_eq_true_iff.mpr ⟨hostsLtI_of_free p i h.1, hostsLtIs_of_free p is h.2⟩
end

theorem band_congr {a a' b b' : Bool} (ha : a = a') (hb : b = b') : (a && b) = (a' && b') := ha ▸ hb ▸ rfl

mutual
theorem hostsLtI_zero : (i : Instr) → hostsLtI 0 i = hostFreeI i
  | .host c _ => decide_eq_false (Nat.not_lt_zero c)
  | .stream _ _ _ _ body | .spawn _ body | .handoff _ _ _ body => hostsLtIs_zero body
  | .join a b | .select a b => band_congr (hostsLtIs_zero a) (hostsLtIs_zero b)
  | .emit _ _ | .notify _ _ | .req _ _ _ | .await _ | .abortTask _ | .selfwake _ | .abortCmd _ => rfl
theorem hostsLtIs_zero : (is : List Instr) → hostsLtIs 0 is = hostFreeIs is
  | [] => rfl
  | i :: is => band_congr (hostsLtI_zero i) (hostsLtIs_zero is)
end

mutual
theorem hostsLtB_zero : (b : Block) → hostsLtB 0 b = hostFreeB b
  | .mk _ cur rest => band_congr (hostsLtP_zero cur) (hostsLtIs_zero rest)
theorem hostsLtP_zero : (pd : Pend) → hostsLtP 0 pd = hostFreeP pd
  | .host c _ => decide_eq_false (Nat.not_lt_zero c)
  | .streamWait _ _ _ _ body => hostsLtIs_zero body
  | .streamBody _ _ _ _ body inner => band_congr (hostsLtIs_zero body) (hostsLtB_zero inner)
  | .join a b _ _ | .select a b => band_congr (hostsLtB_zero a) (hostsLtB_zero b)
  | .idle | .req _ _ | .reqDead | .await _ | .selfwake _ => rfl
end

theorem hostsLtB_mk {p : Nat} {env : Env} {cur : Pend} {rest : List Instr} (hc : hostsLtP p cur = true)
    (hr : hostsLtIs p rest = true) : hostsLtB p (.mk env cur rest) = true :=
  Bool.and_eq_true_iff.mpr ⟨hc, hr⟩

def hostsLtRes (p : Nat) : PollRes → Prop
  | .pending b' => hostsLtB p b' = true
  | .ready _ => True

theorem hostsLtIs_mem {p : Nat} {i : Instr} : ∀ {is : List Instr}, hostsLtIs p is = true → i ∈ is → hostsLtI p i = true
  | j :: is, h, hi => by
    simp only [hostsLtIs, Bool.and_eq_true] at h
    rcases List.mem_cons.mp hi with rfl | hi
    · exact h.1
    · exact hostsLtIs_mem h.2 hi

section drop
variable {J : World → Prop} {dc : Nat → World → World} {p : Nat}

mutual
theorem dropBlock_lt (hdc : ∀ c w, c < p → J w → J (dc c w)) (hr : ∀ w l, J w → J (w.dropReceiver l)) :
    (b : Block) → (w : World) → hostsLtB p b = true → J w → J (dropBlock dc b w)
  | .mk _ cur rest, w, hb, h => by
    simp only [hostsLtB, Bool.and_eq_true] at hb
    simp only [dropBlock]
    refine foldl_inv_mem rest _ (fun w i hi hw => ?_) (dropPend_lt hdc hr cur w hb.1 h)
    cases i with
    | host c m => exact hdc c w (of_decide_eq_true (hostsLtIs_mem hb.2 hi)) hw
    | _ => exact hw
theorem dropPend_lt (hdc : ∀ c w, c < p → J w → J (dc c w)) (hr : ∀ w l, J w → J (w.dropReceiver l)) :
    (pd : Pend) → (w : World) → hostsLtP p pd = true → J w → J (dropPend dc pd w)
  | .idle, _, _, h | .reqDead, _, _, h | .await _, _, _, h | .selfwake _, _, _, h => by simpa only [dropPend] using h
  | .req _ l, w, _, h | .streamWait _ l _ _ _, w, _, h => by simpa only [dropPend] using hr w l h
  | .streamBody _ l _ _ _ inner, w, hb, h => by
    simp only [hostsLtP, Bool.and_eq_true] at hb
    simpa only [dropPend] using hr _ l (dropBlock_lt hdc hr inner w hb.2 h)
  | .join a b ad bd, w, hb, h => by
    simp only [hostsLtP, Bool.and_eq_true] at hb
    simp only [dropPend]
    cases ad <;> cases bd <;> simp only [Bool.false_eq_true, if_false, if_true]
    · exact dropBlock_lt hdc hr b _ hb.2 (dropBlock_lt hdc hr a w hb.1 h)
    · exact dropBlock_lt hdc hr a w hb.1 h
    · exact dropBlock_lt hdc hr b w hb.2 h
    · exact h
  | .select a b, w, hb, h => by
    simp only [hostsLtP, Bool.and_eq_true] at hb
    simpa only [dropPend] using dropBlock_lt hdc hr b _ hb.2 (dropBlock_lt hdc hr a w hb.1 h)
  | .host c _, w, hb, h => by simpa only [dropPend] using hdc c w (of_decide_eq_true hb) h
end

end drop

/-- the world invariant: every stored task of every command hosts only commands below its own -/
structure HL (w : World) : Prop where
  tasks : ∀ q, ∀ t ∈ (w.cmd q).tasks.values, hostsLtB q t.fut = true
  spawn : ∀ q, ∀ t ∈ (w.cmd q).spawnQ, hostsLtB q t.fut = true

/-- frame of a poll of a task of command `p`: slabs of `p` and above are untouched; only `p`'s spawn queue grows, by tasks
    that host below `p` -/
structure PT (p : Nat) (w w' : World) : Prop where
  tasks : ∀ q, p ≤ q → (w'.cmd q).tasks = (w.cmd q).tasks
  spawn : ∀ q t, p ≤ q → t ∈ (w'.cmd q).spawnQ → t ∈ (w.cmd q).spawnQ ∨ (q = p ∧ hostsLtB p t.fut = true)

/-- frame of running / dropping command `c`: everything strictly above `c` is untouched -/
structure RT (c : Nat) (w w' : World) : Prop where
  tasks : ∀ q, c < q → (w'.cmd q).tasks = (w.cmd q).tasks
  spawn : ∀ q t, c < q → t ∈ (w'.cmd q).spawnQ → t ∈ (w.cmd q).spawnQ

theorem PT.refl (p : Nat) (w : World) : PT p w w := ⟨fun _ _ => rfl, fun _ _ _ h => Or.inl h⟩
theorem PT.trans {p : Nat} {w1 w2 w3 : World} (h12 : PT p w1 w2) (h23 : PT p w2 w3) : PT p w1 w3 :=
  ⟨fun q hq => (h23.tasks q hq).trans (h12.tasks q hq), fun q t hq h => by
    rcases h23.spawn q t hq h with h | h
    · exact h12.spawn q t hq h
    · exact Or.inr h⟩

theorem RT.refl (c : Nat) (w : World) : RT c w w := ⟨fun _ _ => rfl, fun _ _ _ h => h⟩
theorem RT.trans {c : Nat} {w1 w2 w3 : World} (h12 : RT c w1 w2) (h23 : RT c w2 w3) : RT c w1 w3 :=
  ⟨fun q hq => (h23.tasks q hq).trans (h12.tasks q hq), fun q t hq h => h12.spawn q t hq (h23.spawn q t hq h)⟩
theorem RT.mono {c c' : Nat} (h : c ≤ c') {w w' : World} (hr : RT c w w') : RT c' w w' :=
  ⟨fun q hq => hr.tasks q (by omega), fun q t hq ht => hr.spawn q t (by omega) ht⟩

theorem RT.toPT {c p : Nat} (h : c < p) {w w' : World} (hr : RT c w w') : PT p w w' :=
  ⟨fun q hq => hr.tasks q (by omega), fun q t hq ht => Or.inl (hr.spawn q t (by omega) ht)⟩

theorem PT.toRT {p : Nat} {w w' : World} (h : PT p w w') : RT p w w' :=
  ⟨fun q hq => h.tasks q (by omega), fun q t hq ht => by
    rcases h.spawn q t (by omega) ht with ht | ht
    · exact ht
    · omega⟩

theorem PT.step {p : Nat} {w₀ w w' : World} (k : HL w ∧ PT p w₀ w) (h : HL w → HL w' ∧ PT p w w') : HL w' ∧ PT p w₀ w' :=
  ⟨(h k.1).1, k.2.trans (h k.1).2⟩

theorem RT.step {c : Nat} {w₀ w w' : World} (k : HL w ∧ RT c w₀ w) (h : HL w → HL w' ∧ RT c w w') : HL w' ∧ RT c w₀ w' :=
  ⟨(h k.1).1, k.2.trans (h k.1).2⟩

end M.Rt
