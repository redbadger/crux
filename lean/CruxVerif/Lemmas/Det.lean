/-
Helper lemmas for C11: the order `bytesLe` on header names, commutation of stable insertion for different names,
independence of the emitted header list from the iteration order; timer-id numbering and renaming by rank.
-/
import CruxVerif.Lemmas.Http
import CruxVerif.Model.Det
namespace Lemmas.Det
open M.Http M.Det

theorem bytesLe_total (a b : Bytes) : bytesLe a b = true ∨ bytesLe b a = true := by
  simpa only [Lemmas.Http.bytesLe_iff_le] using List.le_total a b

theorem bytesLe_antisymm (a b : Bytes) (h1 : bytesLe a b = true) (h2 : bytesLe b a = true) : a = b :=
  List.le_antisymm ((Lemmas.Http.bytesLe_iff_le a b).1 h1) ((Lemmas.Http.bytesLe_iff_le b a).1 h2)

theorem bytesLe_trans (a b c : Bytes) (h1 : bytesLe a b = true) (h2 : bytesLe b c = true) : bytesLe a c = true :=
  (Lemmas.Http.bytesLe_iff_le a c).2
    (List.le_trans ((Lemmas.Http.bytesLe_iff_le a b).1 h1) ((Lemmas.Http.bytesLe_iff_le b c).1 h2))

theorem insertByName_comm_of_lt (p q : Bytes × Bytes) (hpq : bytesLe p.1 q.1 = true) (hqp : bytesLe q.1 p.1 = false)
    (l : List (Bytes × Bytes)) : insertByName p (insertByName q l) = insertByName q (insertByName p l) := by
  induction l with
  | nil => simp [insertByName, hpq, hqp]
  | cons z t ih =>
    by_cases hq : bytesLe q.1 z.1 = true
    · have hp := bytesLe_trans _ _ _ hpq hq
      simp [insertByName, hpq, hqp, hq, hp]
    · by_cases hp : bytesLe p.1 z.1 = true <;> simp [insertByName, hqp, hq, hp, ih]

theorem insertByName_comm (p q : Bytes × Bytes) (hne : p.1 ≠ q.1) (l : List (Bytes × Bytes)) :
    insertByName p (insertByName q l) = insertByName q (insertByName p l) := by
  rcases bytesLe_total p.1 q.1 with h | h
  · exact insertByName_comm_of_lt p q h (Bool.eq_false_iff.2 fun h' => hne (bytesLe_antisymm _ _ h h')) l
  · exact (insertByName_comm_of_lt q p h (Bool.eq_false_iff.2 fun h' => hne (bytesLe_antisymm _ _ h' h)) l).symm

theorem insert_foldr_comm (p : Bytes × Bytes) (B : List (Bytes × Bytes)) (hB : ∀ q ∈ B, p.1 ≠ q.1)
    (S : List (Bytes × Bytes)) :
    insertByName p (B.foldr insertByName S) = B.foldr insertByName (insertByName p S) := by
  induction B with
  | nil => rfl
  | cons q t ih =>
    simp only [List.foldr_cons]
    rw [insertByName_comm p q (hB q (by simp)), ih (fun x hx => hB x (by simp [hx]))]

theorem foldr_foldr_comm (A B : List (Bytes × Bytes)) (h : ∀ p ∈ A, ∀ q ∈ B, p.1 ≠ q.1)
    (S : List (Bytes × Bytes)) :
    A.foldr insertByName (B.foldr insertByName S) = B.foldr insertByName (A.foldr insertByName S) := by
  induction A with
  | nil => rfl
  | cons p t ih =>
    simp only [List.foldr_cons]
    rw [ih (fun x hx => h x (by simp [hx])), insert_foldr_comm p B (h p (by simp))]

/-- the pairs of one entry -/
def entryFlat (e : Bytes × List Bytes) : List (Bytes × Bytes) := e.2.map (fun v => (e.1, v))

theorem emit_cons (e : Bytes × List Bytes) (h : Headers) :
    emitHeaders (e :: h) = (entryFlat e).foldr insertByName (emitHeaders h) := by
  simp only [emitHeaders, sortByName, Headers.flat, List.flatMap_cons, List.foldr_append, entryFlat]

theorem entryFlat_name (e : Bytes × List Bytes) (p : Bytes × Bytes) (hp : p ∈ entryFlat e) : p.1 = e.1 := by
  simp only [entryFlat, List.mem_map] at hp
  obtain ⟨v, _, rfl⟩ := hp
  rfl

/-- the emitted header list does not depend on the iteration order of the header map -/
theorem emitHeaders_perm (h' h : Headers) (hp : h'.Perm h) (hn : (h'.map (·.1)).Nodup) :
    emitHeaders h' = emitHeaders h := by
  induction hp with
  | nil => rfl
  | cons x _ ih =>
    rw [emit_cons, emit_cons, ih (by simp only [List.map_cons, List.nodup_cons] at hn; exact hn.2)]
  | swap x y l =>
    rw [emit_cons, emit_cons, emit_cons, emit_cons]
    apply foldr_foldr_comm
    intro p hp q hq
    rw [entryFlat_name _ _ hp, entryFlat_name _ _ hq]
    simp only [List.map_cons, List.nodup_cons, List.mem_cons, not_or] at hn
    exact hn.1.1
  | trans p1 _ ih1 ih2 =>
    rw [ih1 hn, ih2 ((List.Perm.nodup_iff (p1.map (·.1))).mp hn)]

theorem rankIn_append_new (seen : List Nat) (i : Nat) (h : ¬ i ∈ seen) : rankIn (seen ++ [i]) i = seen.length := by
  induction seen with
  | nil => simp [rankIn]
  | cons j t ih =>
    have hj : j ≠ i := fun e => h (by simp [e])
    have ht : ¬ i ∈ t := fun e => h (by simp [e])
    simp only [List.cons_append, rankIn, List.length_cons]
    simp [hj, ih ht]; omega

/-- renaming by rank, started after `m` ids `k … k+m-1` have been seen, continues the numbering at `m` -/
theorem rankRenameFrom_run (ops : List TOp) : ∀ k m : Nat,
    rankRenameFrom (List.range' k m) (runTimers (k + m) ops) = runTimers m ops := by
  induction ops with
  | nil => intro k m; rfl
  | cons op rest ih =>
    intro k m
    have hnew : ¬ (k + m) ∈ List.range' k m := by simp [List.mem_range']
    have hc : (List.range' k m).contains (k + m) = false := by simp [hnew]
    have hseen : List.range' k m ++ [k + m] = List.range' k (m + 1) := by
      rw [List.range'_concat]; simp
    have hrank : rankIn (List.range' k (m + 1)) (k + m) = m := by
      rw [← hseen, rankIn_append_new _ _ hnew]; simp
    -- a timer takes the id `k + m`, new to the ids seen, hence of rank `m`
    cases op <;>
      simp only [runTimers, rankRenameFrom, TReq.id?, hc, Bool.false_eq_true, if_false, TReq.rename, hrank, hseen,
        Nat.add_assoc k m 1, ih]

theorem rankRename_run (k : Nat) (ops : List TOp) : rankRename (runTimers k ops) = runTimers 0 ops :=
  rankRenameFrom_run ops k 0

theorem run_shift (ops : List TOp) : ∀ k d : Nat,
    runTimers (k + d) ops = (runTimers k ops).map (TReq.rename (· + d)) := by
  induction ops with
  | nil => intro k d; rfl
  | cons op rest ih =>
    intro k d
    cases op <;> simp only [runTimers, List.map_cons, TReq.rename, Nat.add_right_comm k d 1, ih]

theorem id?_rename (r : TReq) (f : Nat → Nat) : (r.rename f).id? = r.id?.map f := by cases r <;> rfl

theorem run_ids_ge (ops : List TOp) (k : Nat) : ∀ r ∈ runTimers k ops, ∀ i, r.id? = some i → k ≤ i := by
  intro r hr i hi
  rw [← Nat.zero_add k, run_shift ops 0 k] at hr
  obtain ⟨r0, -, rfl⟩ := List.mem_map.1 hr
  rw [id?_rename, Option.map_eq_some_iff] at hi
  obtain ⟨i0, -, rfl⟩ := hi
  exact Nat.le_add_left k i0

theorem rename_rename (f g : Nat → Nat) (r : TReq) : (r.rename g).rename f = r.rename (f ∘ g) := by
  cases r <;> rfl

theorem rename_id (r : TReq) (f : Nat → Nat) (hf : ∀ i, f i = i) : r.rename f = r := by
  cases r <;> simp [TReq.rename, hf]

theorem valuesEq_iff_of_length (a b : List Bytes) (h : a.length = b.length) : valuesEq a b = true ↔ a = b := by
  induction a generalizing b with
  | nil => cases b with
    | nil => simp [valuesEq]
    | cons y t => simp at h
  | cons x s ih =>
    cases b with
    | nil => simp at h
    | cons y t =>
      simp only [List.length_cons, Nat.add_right_cancel_iff] at h
      have := ih t h
      simp only [valuesEq] at this ⊢
      simp [this]

end Lemmas.Det
