/- The frame `TKp`: no command's task slab is touched, spawn queues only grow. A host-free poll stays within it; a hosting one
   leaves it only through the commands it hosts. -/
import CruxVerif.Lemmas.PollFrame
namespace M.Rt

/-- `New` = what is known about every task that a step adds to a spawn queue -/
structure TKp (New : Nat → Task → Prop) (w w' : World) : Prop where
  tasks : ∀ c, (w'.cmd c).tasks = (w.cmd c).tasks
  spawn : ∀ c t, t ∈ (w'.cmd c).spawnQ → t ∈ (w.cmd c).spawnQ ∨ New c t

/-- the instance used for ownership: new spawn-queue members are host-free -/
abbrev TK := TKp (fun _ t => hostFreeB t.fut = true)

/-- the "nothing new" instance -/
abbrev TK0 := TKp (fun _ _ => False)

variable {New : Nat → Task → Prop}

theorem TKp.imp {New' : Nat → Task → Prop} {w w' : World} (h : TKp New w w') (hi : ∀ c t, New c t → New' c t) :
    TKp New' w w' :=
  ⟨h.tasks, fun c t ht => (h.spawn c t ht).imp id (hi c t)⟩

theorem TKp.refl (w : World) : TKp New w w := ⟨fun _ => rfl, fun _ _ h => Or.inl h⟩
theorem TKp.trans {w1 w2 w3 : World} (h12 : TKp New w1 w2) (h23 : TKp New w2 w3) : TKp New w1 w3 :=
  ⟨fun c => (h23.tasks c).trans (h12.tasks c), fun c t h => by
    rcases h23.spawn c t h with h | h
    · exact h12.spawn c t h
    · exact Or.inr h⟩

theorem tk_of_cmds {w w' : World} (hc : w'.cmds = w.cmds) : TKp New w w' := by
  refine ⟨?_, ?_⟩
  · intro c; simp only [World.cmd, hc]
  · intro c t h; left; simpa only [World.cmd, hc] using h

theorem tk_modCmd (w : World) (c : Nat) (f : CmdSt → CmdSt) (hf : ∀ x, (f x).tasks = x.tasks)
    (hs : ∀ x, (f x).spawnQ = x.spawnQ) : TKp New w (w.modCmd c f) :=
  ⟨World.cmd_modCmd_keep (·.tasks) hf w c, fun q t ht => Or.inl (by rwa [World.cmd_modCmd_keep (·.spawnQ) hs] at ht)⟩

theorem tk_spawn (w : World) (c : Nat) (t0 : Task) (h0 : New c t0) :
    TKp New w (w.modCmd c fun x => { x with spawnQ := x.spawnQ ++ [t0] }) :=
  ⟨World.cmd_modCmd_keep (·.tasks) (f := fun x => { x with spawnQ := x.spawnQ ++ [t0] }) (fun _ => rfl) w c, fun q t ht =>
    (World.mem_cmd_modCmd (P := (· = t0)) (·.spawnQ) (fun x a ha => by simpa using ha) ht).imp id
      fun ⟨e, et⟩ => by rw [e, et]; exact h0⟩

theorem tk_sinkEvent (w : World) (s : Sink) (e : Ev) : TKp New w (w.sinkEvent s e) := by
  cases s with
  | cmd c => exact tk_modCmd w c _ (fun _ => rfl) (fun _ => rfl)
  | core => exact tk_of_cmds rfl

theorem tk_sinkEffect (w : World) (s : Sink) (e : Eff) : TKp New w (w.sinkEffect s e) := by
  cases s with
  | cmd c => exact tk_modCmd w c _ (fun _ => rfl) (fun _ => rfl)
  | core => exact tk_of_cmds rfl

theorem tk_forward (w : World) (c : Nat) (o : Output) : TKp New w (w.forward c o) := by
  cases o <;> exact tk_modCmd w c _ (fun _ => rfl) (fun _ => rfl)

theorem tk_anomaly (w : World) (s : String) : TKp New w (w.anomaly s) := tk_of_cmds rfl

theorem tk_woken (W : World) (l : List Nat) : TKp New W ({ W with woken := l } : World) := tk_of_cmds rfl
theorem tk_execSpawn (w : World) (xs : List ExecTask) : TKp New w ({ w with execSpawn := xs } : World) := tk_of_cmds rfl
theorem tk_aborts (w : World) (l : List (Nat × Nat)) : TKp New w ({ w with aborts := l } : World) := tk_of_cmds rfl
theorem tk_nextSerial (w : World) (n : Nat) : TKp New w ({ w with nextSerial := n } : World) := tk_of_cmds rfl
theorem tk_modMeta (w : World) (s : Nat) (f : Meta → Meta) : TKp New w (w.modMeta s f) := tk_of_cmds rfl
theorem tk_modLeaf (w : World) (l : Nat) (f : Leaf → Leaf) : TKp New w (w.modLeaf l f) := tk_of_cmds rfl

theorem tk_wake : ∀ (f : Nat) (wk : Waker) (w : World), TKp New w (wake f wk w) := fun f wk w =>
  wake_inv (J := TKp New w) (fun _ c _ h => h.trans (tk_modCmd _ c _ (by intro; rfl) (by intro; rfl)))
    (fun _ c h => h.trans (tk_modCmd _ c _ (by intro; rfl) (by intro; rfl))) (fun _ _ h => h.trans (tk_woken _ _))
    (fun _ _ h => h.trans (tk_of_cmds rfl)) (fun _ _ h => h.trans (tk_of_cmds rfl)) f wk w (TKp.refl w)

theorem tk_World_wake (w : World) (wk : Waker) : TKp New w (w.wake wk) := tk_wake _ wk w

theorem tk_abortCmd (w : World) (c : Nat) : TKp New w (w.abortCmd c) :=
  World.abortCmd_inv (J := TKp New w) (fun W s k => k.trans (tk_modMeta W s _))
    (fun W k => k.trans (tk_modCmd W c _ (fun _ => rfl) (fun _ => rfl))) (fun W wk k => k.trans (tk_World_wake W wk)) w (.refl w)

theorem tk_dropReceiver (w : World) (l : Nat) : TKp New w (w.dropReceiver l) := tk_of_cmds rfl

theorem tk_dropBlock (dc : Nat → World → World) (b : Block) (w : World) (h : hostFreeB b = true) :
    TKp New w (dropBlock dc b w) :=
  dropBlock_hf_inv (J := TKp New w) (fun W l k => k.trans (tk_dropReceiver W l)) b w h (TKp.refl w)

theorem tk_dropPend (dc : Nat → World → World) : (p : Pend) → (w : World) → hostFreeP p = true → TKp New w (dropPend dc p w) :=
  fun p w h => dropPend_hf_inv (J := TKp New w) (fun W l k => k.trans (tk_dropReceiver W l)) p w h (TKp.refl w)

theorem tk_World_dropBlock (w : World) (b : Block) (h : hostFreeB b = true) : TKp New w (w.dropBlock b) :=
  tk_dropBlock _ b w h

theorem tk_newLeaf_sinkEffect (w : World) (k : Option Waker) (lg : Bool) (s : Sink) (e : Eff) :
    TKp New w ((w.newLeaf k lg).2.sinkEffect s e) :=
  TKp.trans (w2 := (w.newLeaf k lg).2) (tk_of_cmds rfl) (tk_sinkEffect _ s e)

theorem tk_newMeta_spawn (W : World) (c : Nat) (t0 : Task) (h0 : New c t0) :
    TKp New W (W.newMeta.2.modCmd c fun x => { x with spawnQ := x.spawnQ ++ [t0] }) :=
  TKp.trans (w2 := W.newMeta.2) (tk_of_cmds rfl) (tk_spawn _ c t0 h0)

/-! ### one poll

What a poll of a block does to the commands, except through the commands the block hosts, are steps within `TKp`. So for a
block whose hosted commands lie below `p`, a predicate `J` on worlds survives the poll if it survives such steps, the
hosting loop over a command below `p` and the drop of one. A host-free block is the case `p = 0`. -/

section poll
variable {pn : Waker → Nat → World → Option (NextRes × World)} {New : Nat → Task → Prop} {J : World → Prop} {wk : Waker}
  {sink : Sink} {p : Nat}

def LtGood (pn : Waker → Nat → World → Option (NextRes × World)) (J : World → Prop) (wk : Waker) (sink : Sink) (p f : Nat) : Prop :=
  ∀ b w r w', pollBlock pn f wk sink b w = some (r, w') → hostsLtB p b = true → J w → J w' ∧ hostsLtRes p r

theorem hostsLt_pollClass (p : Nat) : PollClass (hostsLtB p · = true) := by
  constructor <;> simp +contextual [hostsLtB, hostsLtP, hostsLtIs, hostsLtI]

theorem lt_of_hostsLtB {env : Env} {c : Nat} {m : Mapper} {rest : List Instr} (h : hostsLtB p (.mk env (.host c m) rest) = true) :
    c < p := by
  simp only [hostsLtB, hostsLtP, Bool.and_eq_true, decide_eq_true_eq] at h
  exact h.1

/-- the steps of a poll of a block whose hosted commands lie below `p`: all but those through a hosted command are steps
    within `TKp` -/
theorem tk_hostOps (tk : ∀ w w1, TKp New w w1 → J w → J w1)
    (spawn : ∀ c t, sink = .cmd c → hostsLtB p t.fut = true → New c t)
    (host : ∀ f me c m w d w1, sink = .cmd me → c < p → hostLoop pn f wk me c m w = some (d, w1) → J w → J w1)
    (dropC : ∀ c w, c < p → J w → J (w.dropCmd c)) : HostOps pn (hostsLtB p · = true) wk sink (fun _ => True) J where
  event w e := tk _ _ (tk_sinkEvent w sink e)
  effect w e := tk _ _ (tk_sinkEffect w sink e)
  newLeaf w _ h := ⟨tk w _ (tk_of_cmds rfl) h, trivial⟩
  spawn w c _ _ hs hb := tk _ _ (tk_newMeta_spawn w c _ (spawn c _ hs hb))
  legacy w _ _ _ _ := tk _ _ (tk_execSpawn w _)
  handoff w c _ _ _ _ _ l _ hs hb :=
    tk _ _ (tk_newMeta_spawn w c _ (spawn c _ hs ((hostsLt_pollClass p).handoff _ _ _ _ _ l _ hb)))
  legacyHandoff w _ _ _ _ _ _ _ _ _ := tk _ _ (tk_execSpawn w _)
  abortTask w s _ _ _ _ := tk _ _ (tk_modMeta w s _)
  abortCmd w c _ _ _ _ := tk _ _ (tk_abortCmd w c)
  dropReceiver w l _ := tk _ _ (tk_dropReceiver w l)
  setWaker w l _ _ := tk _ _ (tk_modLeaf w l _)
  setQueue w l _ _ := tk _ _ (tk_modLeaf w l _)
  join w s _ _ _ := tk _ _ (tk_modMeta w s _)
  wake w := tk _ _ (tk_World_wake w wk)
  host f w me c m d w' _ _ hs hb hl := host f me c m w d w' hs (lt_of_hostsLtB hb) hl
  dropCmd w c _ _ _ hb := dropC c w (lt_of_hostsLtB hb)
  dropBlock w b hb _ := dropBlock_lt (fun c W hc => dropC c W hc) (fun W l => tk _ _ (tk_dropReceiver W l)) b w hb

theorem pollBlock_ltgood (tk : ∀ w w1, TKp New w w1 → J w → J w1)
    (spawn : ∀ c t, sink = .cmd c → hostsLtB p t.fut = true → New c t)
    (host : ∀ f me c m w d w1, sink = .cmd me → c < p → hostLoop pn f wk me c m w = some (d, w1) → J w → J w1)
    (dropC : ∀ c w, c < p → J w → J (w.dropCmd c)) : ∀ f, LtGood pn J wk sink p f := fun f b w r w' h hb hw =>
  have g := pollBlock_inv_blocks pn (hostsLt_pollClass p) (tk_hostOps tk spawn host dropC) f b w r w' h hb
    (fun _ _ => trivial) hw
  ⟨g.1, by cases r <;> exact g.2.1⟩

end poll

/-- what a spawn into `sink` may add to a command's spawn queue: a host-free task, and only if the sink is that command -/
def SinkNew (New : Nat → Task → Prop) (sink : Sink) : Prop :=
  ∀ c t, sink = .cmd c → hostFreeB t.fut = true → New c t

def TGood (pn : Waker → Nat → World → Option (NextRes × World)) (f : Nat) : Prop :=
  ∀ (New : Nat → Task → Prop) wk sink b w r w', pollBlock pn f wk sink b w = some (r, w') → hostFreeB b = true →
    SinkNew New sink → TKp New w w'

theorem pollBlock_tgood (pn) : ∀ f, TGood pn f := fun f New wk sink b w r w' h hf hN =>
  (pollBlock_ltgood (J := TKp New w) (p := 0) (fun _ _ f1 k => k.trans f1)
    (fun c t e ht => hN c t e (by rw [← hostsLtB_zero]; exact ht)) (fun _ _ _ _ _ _ _ _ hc => absurd hc (Nat.not_lt_zero _))
    (fun _ _ hc => absurd hc (Nat.not_lt_zero _)) f b w r w' h (by rw [hostsLtB_zero]; exact hf) (TKp.refl w)).1

end M.Rt
