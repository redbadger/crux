/-
One poll of a block is a sequence of elementary steps on the world: a predicate on worlds that every step keeps is kept by
the poll, for any fuel and any lower layer.  The case analysis of `pollBlock` is made here once, by one `grind` call
(`pollBlock_kept`, read through `pollBlock_inv_blocks`), for the blocks of any class closed under polling (`PollClass`): the
steps are told that the tasks spawned are of the class, and a step that only one instruction makes is asked for only where
the class has that instruction.  `ClassOps` are the steps of a host-free block, `HostOps` adds those of a hosting one; a
class of host-free blocks needs the former only (`pollBlock_inv_class`).  A frame of the poll is an instance that says what
each step does to its predicate (a relation to the world before the poll is the predicate `R w₀ ·`); `RefOps`, `PollOps` are
the steps for the class of all host-free blocks.
-/
import CruxVerif.Lemmas.Refs
namespace M.Rt

/-! ### host-free blocks -/

/-! host-freeness in a form `grind` can use: one unconditional equation per constructor -/
theorem hfB_eq (env : Env) (cur : Pend) (rest : List Instr) : hostFreeB (.mk env cur rest) = (hostFreeP cur && hostFreeIs rest) := by
  simp [hostFreeB]
theorem hfP_idle : hostFreeP .idle = true := by simp [hostFreeP]
theorem hfP_reqDead : hostFreeP .reqDead = true := by simp [hostFreeP]
theorem hfP_req (x l : Nat) : hostFreeP (.req x l) = true := by simp [hostFreeP]
theorem hfP_await (s : Nat) : hostFreeP (.await s) = true := by simp [hostFreeP]
theorem hfP_selfwake (s : Nat) : hostFreeP (.selfwake s) = true := by simp [hostFreeP]
theorem hfP_streamWait (x l c lim : Nat) (body : List Instr) : hostFreeP (.streamWait x l c lim body) = hostFreeIs body := by
  simp [hostFreeP]
theorem hfP_streamBody (x l c lim : Nat) (body : List Instr) (inner : Block) :
    hostFreeP (.streamBody x l c lim body inner) = (hostFreeIs body && hostFreeB inner) := by simp [hostFreeP]
theorem hfP_join (a b : Block) (ad bd : Bool) : hostFreeP (.join a b ad bd) = (hostFreeB a && hostFreeB b) := by simp [hostFreeP]
theorem hfP_select (a b : Block) : hostFreeP (.select a b) = (hostFreeB a && hostFreeB b) := by simp [hostFreeP]
theorem hfP_host (c : Nat) (m : Mapper) : hostFreeP (.host c m) = false := by simp [hostFreeP]
theorem hfIs_nil : hostFreeIs [] = true := by simp [hostFreeIs]
theorem hfIs_cons (i : Instr) (is : List Instr) : hostFreeIs (i :: is) = (hostFreeI i && hostFreeIs is) := by simp [hostFreeIs]
theorem hfI_host (c : Nat) (m : Mapper) : hostFreeI (.host c m) = false := by simp [hostFreeI]
theorem hfI_stream (x n : Nat) (e : Expr) (lim : Nat) (body : List Instr) : hostFreeI (.stream x n e lim body) = hostFreeIs body := by
  simp [hostFreeI]
theorem hfI_spawn (h : Nat) (body : List Instr) : hostFreeI (.spawn h body) = hostFreeIs body := by simp [hostFreeI]
theorem hfI_handoff (x n : Nat) (e : Expr) (body : List Instr) : hostFreeI (.handoff x n e body) = hostFreeIs body := by
  simp [hostFreeI]
theorem hfI_join (a b : List Instr) : hostFreeI (.join a b) = (hostFreeIs a && hostFreeIs b) := by simp [hostFreeI]
theorem hfI_select (a b : List Instr) : hostFreeI (.select a b) = (hostFreeIs a && hostFreeIs b) := by simp [hostFreeI]
theorem hfRes_pending (b : Block) : hfRes (.pending b) = (hostFreeB b = true) := by simp [hfRes]

/-! ### the updates a poll makes, under names `grind` can match on -/

def addJoinWaker (wk : Waker) (m : Meta) : Meta := { m with joinWakers := m.joinWakers ++ [wk] }
theorem addJoinWaker_eq (wk : Waker) : (fun m : Meta => { m with joinWakers := m.joinWakers ++ [wk] }) = addJoinWaker wk := rfl

def addSpawn (t : Task) (x : CmdSt) : CmdSt := { x with spawnQ := x.spawnQ ++ [t] }
theorem addSpawn_eq (t : Task) : (fun x : CmdSt => { x with spawnQ := x.spawnQ ++ [t] }) = addSpawn t := rfl

def setWaker (k : Waker) (lf : Leaf) : Leaf := { lf with waker := some k }
def setQueue (q : List Val) (lf : Leaf) : Leaf := { lf with queue := q }
theorem setWaker_eq (k : Waker) : (fun lf : Leaf => { lf with waker := some k }) = setWaker k := rfl
theorem setQueue_eq (q : List Val) : (fun lf : Leaf => { lf with queue := q }) = setQueue q := rfl

/-! ### dropping a host-free block -/

/-- Dropping a host-free block only drops the receivers of the channels it references: a predicate kept by those drops
    is kept by the drop of the block. -/
theorem dropBlock_refs_ind (P : World → Prop) (dc : Nat → World → World) :
    ∀ (b : Block) (w : World), hostFreeB b = true → (∀ w l, l ∈ refsB b → P w → P (w.dropReceiver l)) → P w →
      P (dropBlock dc b w) := by
  refine Block.rec
    (motive_1 := fun b => ∀ w, hostFreeB b = true → (∀ w l, l ∈ refsB b → P w → P (w.dropReceiver l)) → P w → P (dropBlock dc b w))
    (motive_2 := fun p => ∀ w, hostFreeP p = true → (∀ w l, l ∈ refsP p → P w → P (w.dropReceiver l)) → P w → P (dropPend dc p w))
    ?mk ?idle ?req ?reqDead ?streamWait ?streamBody ?await ?join ?select ?selfwake ?host
  case mk =>
    intro env cur rest ih w hf hP hw
    simp only [hostFreeB, Bool.and_eq_true] at hf
    rw [dropBlock_hostFree_rest dc env cur rest w hf.2]
    exact ih w hf.1 hP hw
  case idle => exact fun w _ _ hw => by simpa [dropPend] using hw
  case reqDead => exact fun w _ _ hw => by simpa [dropPend] using hw
  case await => exact fun s w _ _ hw => by simpa [dropPend] using hw
  case selfwake => exact fun k w _ _ hw => by simpa [dropPend] using hw
  case req => exact fun x l w _ hP hw => by simp only [dropPend]; exact hP w l (by simp [refsP]) hw
  case streamWait => exact fun x l c lim body w _ hP hw => by simp only [dropPend]; exact hP w l (by simp [refsP]) hw
  case streamBody =>
    intro x l c lim body inner ih w hf hP hw
    simp only [hostFreeP, Bool.and_eq_true] at hf
    simp only [dropPend]
    exact hP _ l (by simp [refsP]) (ih w hf.2 (fun w l' hl' => hP w l' (by simp [refsP, hl'])) hw)
  case join =>
    intro a b ad bd iha ihb w hf hP hw
    simp only [hostFreeP, Bool.and_eq_true] at hf
    simp only [dropPend]
    cases ad <;> cases bd <;> simp only [refsP, Bool.false_eq_true, if_false, if_true, List.mem_append] at hP ⊢
    · exact ihb _ hf.2 (fun w l hl => hP w l (Or.inr hl)) (iha w hf.1 (fun w l hl => hP w l (Or.inl hl)) hw)
    · exact iha w hf.1 (fun w l hl => hP w l (Or.inl hl)) hw
    · exact ihb w hf.2 (fun w l hl => hP w l (Or.inr hl)) hw
    · exact hw
  case select =>
    intro a b iha ihb w hf hP hw
    simp only [hostFreeP, Bool.and_eq_true] at hf
    simp only [dropPend]
    simp only [refsP, List.mem_append] at hP
    exact ihb _ hf.2 (fun w l hl => hP w l (Or.inr hl)) (iha w hf.1 (fun w l hl => hP w l (Or.inl hl)) hw)
  case host => exact fun c m w hf => by simp [hostFreeP] at hf
/-- a predicate kept by dropping a receiver is kept by dropping a host-free block -/
theorem dropBlock_hf_ind (P : World → Prop) (hP : ∀ w l, P w → P (w.dropReceiver l)) (dc : Nat → World → World)
    (b : Block) (w : World) (hf : hostFreeB b = true) (hw : P w) : P (dropBlock dc b w) :=
  dropBlock_refs_ind P dc b w hf (fun w l _ => hP w l) hw

/-! ### one poll, step by step -/

/-- every channel the block holds satisfies `A` -/
def AllRefs (A : Nat → Prop) (b : Block) : Prop := ∀ l ∈ refsB b, A l
def AllRefsRes (A : Nat → Prop) : PollRes → Prop
  | .pending b => AllRefs A b
  | .ready _ => True

section
variable (A : Nat → Prop) (env : Env) (rest : List Instr)
theorem allRefs_idle : AllRefs A (.mk env .idle rest) = True := by simp [AllRefs, refsB, refsP]
theorem allRefs_reqDead : AllRefs A (.mk env .reqDead rest) = True := by simp [AllRefs, refsB, refsP]
theorem allRefs_await (s : Nat) : AllRefs A (.mk env (.await s) rest) = True := by simp [AllRefs, refsB, refsP]
theorem allRefs_selfwake (k : Nat) : AllRefs A (.mk env (.selfwake k) rest) = True := by simp [AllRefs, refsB, refsP]
theorem allRefs_host (c : Nat) (m : Mapper) : AllRefs A (.mk env (.host c m) rest) = True := by simp [AllRefs, refsB, refsP]
theorem allRefs_req (x l : Nat) : AllRefs A (.mk env (.req x l) rest) = A l := by simp [AllRefs, refsB, refsP]
theorem allRefs_streamWait (x l c lim : Nat) (body : List Instr) : AllRefs A (.mk env (.streamWait x l c lim body) rest) = A l := by
  simp [AllRefs, refsB, refsP]
theorem allRefs_streamBody (x l c lim : Nat) (body : List Instr) (inner : Block) :
    AllRefs A (.mk env (.streamBody x l c lim body inner) rest) = (A l ∧ AllRefs A inner) := by simp [AllRefs, refsB, refsP]
theorem allRefs_join (a b : Block) (ad bd : Bool) :
    AllRefs A (.mk env (.join a b ad bd) rest) = ((ad = false → AllRefs A a) ∧ (bd = false → AllRefs A b)) := by
  cases ad <;> cases bd <;> simp [AllRefs, refsB, refsP, or_imp, forall_and]
theorem allRefs_select (a b : Block) : AllRefs A (.mk env (.select a b) rest) = (AllRefs A a ∧ AllRefs A b) := by
  simp [AllRefs, refsB, refsP, or_imp, forall_and]
end
theorem allRefsRes_pending (A : Nat → Prop) (b : Block) : AllRefsRes A (.pending b) = AllRefs A b := rfl
theorem allRefsRes_ready (A : Nat → Prop) (e : Env) : AllRefsRes A (.ready e) = True := rfl

/-- `P a` under a constant head, so that `grind` can match on it when `P` is a variable -/
def Holds {α : Type} (P : α → Prop) (a : α) : Prop := P a

/-- the block a poll leaves, if it leaves one, is in `C` -/
def PendingIn (C : Block → Prop) : PollRes → Prop
  | .pending b => C b
  | .ready _ => True
theorem pendingIn_pending (C : Block → Prop) (b : Block) : PendingIn C (.pending b) = C b := rfl
theorem pendingIn_ready (C : Block → Prop) (e : Env) : PendingIn C (.ready e) = True := rfl

/-- A class of blocks that is closed under polling: every block a poll makes of a block of the class — what remains of it
    at each point, a branch it polls, the body of a task it spawns — is in the class again. -/
structure PollClass (C : Block → Prop) : Prop where
  next : ∀ env env' i rest, C (.mk env .idle (i :: rest)) → C (.mk env' .idle rest)
  resume : ∀ env env' cur rest, C (.mk env cur rest) → C (.mk env' .idle rest)
  req : ∀ env x n e l rest, C (.mk env .idle (.req x n e :: rest)) → C (.mk env (.req x l) rest)
  reqDead : ∀ env x l rest, C (.mk env (.req x l) rest) → C (.mk env .reqDead rest)
  stream : ∀ env x n e lim body l rest,
    C (.mk env .idle (.stream x n e lim body :: rest)) → C (.mk env (.streamWait x l 0 lim body) rest)
  streamItem : ∀ env env' x l c lim body rest,
    C (.mk env (.streamWait x l c lim body) rest) → C (.mk env (.streamBody x l c lim body (.mk env' .idle body)) rest)
  streamInner : ∀ env x l c lim body inner rest, C (.mk env (.streamBody x l c lim body inner) rest) → C inner
  streamBody : ∀ env x l c lim body inner inner' rest,
    C (.mk env (.streamBody x l c lim body inner) rest) → C inner' → C (.mk env (.streamBody x l c lim body inner') rest)
  streamNext : ∀ env env' x l c lim body inner rest,
    C (.mk env (.streamBody x l c lim body inner) rest) → C (.mk env' (.streamWait x l (c + 1) lim body) rest)
  spawn : ∀ env h body rest, C (.mk env .idle (.spawn h body :: rest)) → C (.mk env .idle body)
  handoff : ∀ env x n e body l rest, C (.mk env .idle (.handoff x n e body :: rest)) → C (.mk env (.req x l) body)
  await : ∀ env h s rest, C (.mk env .idle (.await h :: rest)) → C (.mk env (.await s) rest)
  selfwake : ∀ env k rest, C (.mk env .idle (.selfwake k :: rest)) → C (.mk env (.selfwake k) rest)
  selfwakeNext : ∀ env k rest, C (.mk env (.selfwake (k + 1)) rest) → C (.mk env (.selfwake k) rest)
  join : ∀ env a b rest,
    C (.mk env .idle (.join a b :: rest)) → C (.mk env (.join (.mk env .idle a) (.mk env .idle b) false false) rest)
  joinSub : ∀ env a b ad bd rest, C (.mk env (.join a b ad bd) rest) → C a ∧ C b
  joinOf : ∀ env a b ad bd a' b' ad' bd' rest,
    C (.mk env (.join a b ad bd) rest) → C a' → C b' → C (.mk env (.join a' b' ad' bd') rest)
  select : ∀ env a b rest,
    C (.mk env .idle (.select a b :: rest)) → C (.mk env (.select (.mk env .idle a) (.mk env .idle b)) rest)
  selectSub : ∀ env a b rest, C (.mk env (.select a b) rest) → C a ∧ C b
  selectOf : ∀ env a b a' b' rest, C (.mk env (.select a b) rest) → C a' → C b' → C (.mk env (.select a' b') rest)
  host : ∀ env c m rest, C (.mk env .idle (.host c m :: rest)) → C (.mk env (.host c m) rest)

theorem true_pollClass : PollClass fun _ => True := by constructor <;> simp

theorem hostFreeB_pollClass : PollClass (hostFreeB · = true) := by
  constructor <;> simp_all [hostFreeB, hostFreeP, hostFreeIs, hostFreeI]

/-- The elementary steps of which one poll of a block of the class `C` by `wk` into `sink` is made: `P` is kept by each.
    A step on a channel is made only on channels the block holds or has just created, so `P` need only survive steps on
    channels that satisfy `A`, provided those of the block do and every new one does.  A task the poll spawns runs a block
    of `C`; a step that only one instruction makes comes with the block that starts with it, which a class without that
    instruction refutes. -/
structure ClassOps (C : Block → Prop) (wk : Waker) (sink : Sink) (A : Nat → Prop) (P : World → Prop) : Prop where
  event : ∀ w e, P w → P (w.sinkEvent sink e)
  effect : ∀ w e, P w → P (w.sinkEffect sink e)
  newLeaf : ∀ w lg, P w → P (w.newLeaf (some wk) lg).2 ∧ A (w.newLeaf (some wk) lg).1
  spawn : ∀ w c env body, sink = .cmd c → C (.mk env .idle body) → P w →
    P (w.newMeta.2.modCmd c (addSpawn ⟨w.newMeta.1, .mk env .idle body⟩))
  legacy : ∀ w env body, sink = .core → C (.mk env .idle body) → P w →
    P ({ w with execSpawn := w.execSpawn ++ [.legacy (.mk env .idle body)] } : World)
  handoff : ∀ w c env x n e body l rest, sink = .cmd c → C (.mk env .idle (.handoff x n e body :: rest)) → P w →
    P (w.newMeta.2.modCmd c (addSpawn ⟨w.newMeta.1, .mk env (.req x l) body⟩))
  legacyHandoff : ∀ w env x n e body l rest, sink = .core → C (.mk env .idle (.handoff x n e body :: rest)) → P w →
    P ({ w with execSpawn := w.execSpawn ++ [.legacy (.mk env (.req x l) body)] } : World)
  abortTask : ∀ w s env h rest, C (.mk env .idle (.abortTask h :: rest)) → P w → P (w.modMeta s fun m => { m with aborted := true })
  abortCmd : ∀ w c env n rest, C (.mk env .idle (.abortCmd n :: rest)) → P w → P (w.abortCmd c)
  dropReceiver : ∀ w l, A l → P w → P (w.dropReceiver l)
  /-- a receiver registers its waker only after it has seen the sender alive -/
  setWaker : ∀ w l, A l → (w.leaf l).senderAlive = true ∨ (w.leaf l).legacy = true → P w → P (w.modLeaf l (setWaker wk))
  setQueue : ∀ w l q, A l → P w → P (w.modLeaf l (setQueue q))
  join : ∀ w s env rest, C (.mk env (.await s) rest) → P w → P (w.modMeta s (addJoinWaker wk))
  wake : ∀ w, P w → P (w.wake wk)

/-- all steps: with those that only a hosting block makes — each comes with the block that makes it — and the drop of a
    block, which for a hosting block drops the command it hosts -/
structure HostOps (pn : Waker → Nat → World → Option (NextRes × World)) (C : Block → Prop) (wk : Waker) (sink : Sink)
    (A : Nat → Prop) (P : World → Prop) : Prop extends ClassOps C wk sink A P where
  host : ∀ f w me c m d w' env rest, sink = .cmd me → C (.mk env (.host c m) rest) →
    hostLoop pn f wk me c m w = some (d, w') → P w → P w'
  dropCmd : ∀ w c env m rest, C (.mk env (.host c m) rest) → P w → P (w.dropCmd c)
  dropBlock : ∀ w b, C b → AllRefs A b → P w → P (w.dropBlock b)

section
variable {C : Block → Prop} {wk : Waker} {sink : Sink} {A : Nat → Prop} {P : World → Prop}

theorem ClassOps.dropBlock (hf : ∀ b, C b → hostFreeB b = true) (ops : ClassOps C wk sink A P) (w : World) (b : Block)
    (hb : C b) (ha : AllRefs A b) (h : P w) : P (w.dropBlock b) :=
  dropBlock_refs_ind P _ b w (hf b hb) (fun w l hl => ops.dropReceiver w l (ha l hl)) h

/-- a class of host-free blocks has no block that makes the steps of a hosting block -/
theorem ClassOps.hostOps (pn) (hf : ∀ b, C b → hostFreeB b = true) (ops : ClassOps C wk sink A P) :
    HostOps pn C wk sink A P where
  toClassOps := ops
  host _ _ _ _ _ _ _ _ _ _ hb := absurd (hf _ hb) (by simp [hfB_eq, hfP_host])
  dropCmd _ _ _ _ _ hb := absurd (hf _ hb) (by simp [hfB_eq, hfP_host])
  dropBlock := ops.dropBlock hf
end

/-- the claim of `pollBlock_inv_blocks` about the outcome of a poll -/
def Kept (C : Block → Prop) (A : Nat → Prop) (P : World → Prop) : Option (PollRes × World) → Prop
  | some (r, w') => Holds P w' ∧ PendingIn (Holds C) r ∧ AllRefsRes A r
  | none => True

/-- The claim is made of the outcome as an `Option`: once `pollBlock` is unfolded every leaf of the case analysis is `Kept`
    of a result or of a recursive call, and the latter is the induction hypothesis as it stands. -/
theorem pollBlock_kept (pn) {C : Block → Prop} {wk : Waker} {sink : Sink} {A : Nat → Prop} {P : World → Prop}
    (cls : PollClass C) (ops : HostOps pn C wk sink A P) :
    ∀ f b w, Holds C b → AllRefs A b → Holds P w → Kept C A P (pollBlock pn f wk sink b w)
  | 0, _, _, _, _, _ => by simp [pollBlock, Kept]
  | f + 1, .mk env cur rest, w, hc, ha, hw => by
    have ih := pollBlock_kept pn cls ops f
    have k : PollClass (Holds C) := cls
    have o : HostOps pn (Holds C) wk sink A (Holds P) := ops
    unfold pollBlock
    simp only [addJoinWaker_eq, addSpawn_eq, setWaker_eq, setQueue_eq]
    -- `→ k.x`: instantiate `k.x` from its hypothesis alone, where that determines the conclusion
    grind (gen := 20) (splits := 40) [Kept, o.event, o.effect, o.newLeaf, o.spawn, o.legacy, o.handoff, o.legacyHandoff, o.abortTask, o.abortCmd,
      o.dropReceiver, o.setWaker, o.setQueue, o.join, o.wake, o.dropBlock, o.host, o.dropCmd,
      k.next, k.resume, k.req, → k.reqDead, k.stream, k.streamItem, → k.streamInner, k.streamBody, k.streamNext, → k.spawn, k.handoff,
      k.await, → k.selfwake, → k.selfwakeNext, k.join, → k.joinSub, k.joinOf, k.select, → k.selectSub, k.selectOf, → k.host,
      pendingIn_pending, pendingIn_ready,
      allRefsRes_pending, allRefsRes_ready, allRefs_idle, allRefs_reqDead, allRefs_await, allRefs_selfwake, allRefs_host, allRefs_req,
      allRefs_streamWait, allRefs_streamBody, allRefs_join, allRefs_select]

/-- **A predicate on worlds that every elementary step keeps is kept by a poll** of a block of a class closed under
    polling, for any fuel and any lower layer; what remains of the block is in the class, and its channels satisfy `A`
    again. -/
theorem pollBlock_inv_blocks (pn) {C : Block → Prop} {wk : Waker} {sink : Sink} {A : Nat → Prop} {P : World → Prop}
    (cls : PollClass C) (ops : HostOps pn C wk sink A P) (f : Nat) (b : Block) (w : World) (r : PollRes) (w' : World)
    (h : pollBlock pn f wk sink b w = some (r, w')) (hc : C b) (ha : AllRefs A b) (hw : P w) :
    P w' ∧ PendingIn C r ∧ AllRefsRes A r :=
  show Kept C A P (some (r, w')) from h ▸ pollBlock_kept pn cls ops f b w hc ha hw

/-- the same for a class of host-free blocks, which makes the steps of `ClassOps` only -/
theorem pollBlock_inv_class (pn) {C : Block → Prop} {wk : Waker} {sink : Sink} {A : Nat → Prop} {P : World → Prop}
    (cls : PollClass C) (hf : ∀ b, C b → hostFreeB b = true) (ops : ClassOps C wk sink A P) (f : Nat) (b : Block) (w : World)
    (r : PollRes) (w' : World) (h : pollBlock pn f wk sink b w = some (r, w')) (hc : C b) (ha : AllRefs A b) (hw : P w) :
    P w' ∧ PendingIn C r ∧ AllRefsRes A r :=
  pollBlock_inv_blocks pn cls (ops.hostOps pn hf) f b w r w' h hc ha hw

/-- the steps of a poll of a host-free block -/
structure RefOps (wk : Waker) (sink : Sink) (A : Nat → Prop) (P : World → Prop) : Prop where
  event : ∀ w e, P w → P (w.sinkEvent sink e)
  effect : ∀ w e, P w → P (w.sinkEffect sink e)
  newLeaf : ∀ w lg, P w → P (w.newLeaf (some wk) lg).2 ∧ A (w.newLeaf (some wk) lg).1
  spawn : ∀ w c b, sink = .cmd c → hostFreeB b = true → P w → P (w.newMeta.2.modCmd c (addSpawn ⟨w.newMeta.1, b⟩))
  legacy : ∀ w b, sink = .core → hostFreeB b = true → P w → P ({ w with execSpawn := w.execSpawn ++ [.legacy b] } : World)
  abortTask : ∀ w s, P w → P (w.modMeta s fun m => { m with aborted := true })
  abortCmd : ∀ w c, P w → P (w.abortCmd c)
  dropReceiver : ∀ w l, A l → P w → P (w.dropReceiver l)
  setWaker : ∀ w l, A l → (w.leaf l).senderAlive = true ∨ (w.leaf l).legacy = true → P w → P (w.modLeaf l (setWaker wk))
  setQueue : ∀ w l q, A l → P w → P (w.modLeaf l (setQueue q))
  join : ∀ w s, P w → P (w.modMeta s (addJoinWaker wk))
  wake : ∀ w, P w → P (w.wake wk)

theorem RefOps.classOps {wk : Waker} {sink : Sink} {A : Nat → Prop} {P : World → Prop} (ops : RefOps wk sink A P) :
    ClassOps (hostFreeB · = true) wk sink A P where
  event := ops.event
  effect := ops.effect
  newLeaf := ops.newLeaf
  spawn w c _ _ := ops.spawn w c _
  legacy w _ _ := ops.legacy w _
  handoff w c _ _ _ _ _ l _ hs hb := ops.spawn w c _ hs (hostFreeB_pollClass.handoff _ _ _ _ _ l _ hb)
  legacyHandoff w _ _ _ _ _ l _ hs hb := ops.legacy w _ hs (hostFreeB_pollClass.handoff _ _ _ _ _ l _ hb)
  abortTask w s _ _ _ _ := ops.abortTask w s
  abortCmd w c _ _ _ _ := ops.abortCmd w c
  dropReceiver := ops.dropReceiver
  setWaker := ops.setWaker
  setQueue := ops.setQueue
  join w s _ _ _ := ops.join w s
  wake := ops.wake

theorem RefOps.dropBlock {wk : Waker} {sink : Sink} {A : Nat → Prop} {P : World → Prop} (ops : RefOps wk sink A P) (w : World)
    (b : Block) (hb : hostFreeB b = true) (ha : AllRefs A b) (h : P w) : P (w.dropBlock b) :=
  ops.classOps.dropBlock (fun _ h => h) w b hb ha h

theorem pollBlock_inv_refs (pn) {wk : Waker} {sink : Sink} {A : Nat → Prop} {P : World → Prop} (ops : RefOps wk sink A P)
    (f : Nat) (b : Block) (w : World) (r : PollRes) (w' : World) (h : pollBlock pn f wk sink b w = some (r, w'))
    (hf : hostFreeB b = true) (ha : AllRefs A b) (hw : Holds P w) : Holds P w' ∧ AllRefsRes A r :=
  have g := pollBlock_inv_class pn hostFreeB_pollClass (fun _ h => h) ops.classOps f b w r w' h hf ha hw
  ⟨g.1, g.2.2⟩

/-- the steps, when `P` survives them on every channel -/
structure PollOps (wk : Waker) (sink : Sink) (P : World → Prop) : Prop where
  event : ∀ w e, P w → P (w.sinkEvent sink e)
  effect : ∀ w e, P w → P (w.sinkEffect sink e)
  newLeaf : ∀ w lg, P w → P (w.newLeaf (some wk) lg).2
  spawn : ∀ w c b, sink = .cmd c → hostFreeB b = true → P w → P (w.newMeta.2.modCmd c (addSpawn ⟨w.newMeta.1, b⟩))
  legacy : ∀ w b, sink = .core → hostFreeB b = true → P w → P ({ w with execSpawn := w.execSpawn ++ [.legacy b] } : World)
  abortTask : ∀ w s, P w → P (w.modMeta s fun m => { m with aborted := true })
  abortCmd : ∀ w c, P w → P (w.abortCmd c)
  dropReceiver : ∀ w l, P w → P (w.dropReceiver l)
  setWaker : ∀ w l, (w.leaf l).senderAlive = true ∨ (w.leaf l).legacy = true → P w → P (w.modLeaf l (setWaker wk))
  setQueue : ∀ w l q, P w → P (w.modLeaf l (setQueue q))
  join : ∀ w s, P w → P (w.modMeta s (addJoinWaker wk))
  wake : ∀ w, P w → P (w.wake wk)

theorem PollOps.refOps {wk : Waker} {sink : Sink} {P : World → Prop} (ops : PollOps wk sink P) : RefOps wk sink (fun _ => True) P :=
  ⟨ops.event, ops.effect, fun w lg h => ⟨ops.newLeaf w lg h, trivial⟩, ops.spawn, ops.legacy, ops.abortTask, ops.abortCmd,
    fun w l _ => ops.dropReceiver w l, fun w l _ => ops.setWaker w l, fun w l q _ => ops.setQueue w l q, ops.join, ops.wake⟩

theorem PollOps.dropBlock {wk : Waker} {sink : Sink} {P : World → Prop} (ops : PollOps wk sink P) (w : World) (b : Block)
    (hb : hostFreeB b = true) (h : P w) : P (w.dropBlock b) :=
  ops.refOps.dropBlock w b hb (fun _ _ => trivial) h

theorem pollBlock_inv (pn) {wk : Waker} {sink : Sink} {P : World → Prop} (ops : PollOps wk sink P) (f : Nat) (b : Block)
    (w : World) (r : PollRes) (w' : World) (h : pollBlock pn f wk sink b w = some (r, w')) (hf : hostFreeB b = true)
    (hw : P w) : P w' :=
  (pollBlock_inv_refs pn ops.refOps f b w r w' h hf (fun _ _ => trivial) hw).1

end M.Rt
