/- End-to-end delivery on the model: a resolution touches the request's own channel only and wakes the waker registered
   there (the asking task's, by K2); the next poll of the block parked there binds exactly the value. -/
import CruxVerif.Lemmas.K2Steps
namespace M.Rt

theorem dropSender_leaf_other (w : World) (l l' : Nat) (h : l ≠ l') : (w.dropSender l).leaf l' = w.leaf l' :=
  World.dropSender_inv (J := fun w' => w'.leaf l' = w.leaf l') (fun _ hw => (leaf_modLeaf_other _ _ _ _ h).trans hw)
    (fun _ hw => (leaf_modLeaf_other _ _ _ _ h).trans hw) (fun _ _ hw => (leaf_wake _ _ _).trans hw) w rfl

theorem deliver_leaf_other (w : World) (l l' : Nat) (v : Val) (h : l ≠ l') : (w.deliver l v).leaf l' = w.leaf l' :=
  World.deliver_inv (J := fun w' => w'.leaf l' = w.leaf l') (fun _ hw => (leaf_modLeaf_other _ _ _ _ h).trans hw)
    (fun _ _ hw => (leaf_wake _ _ _).trans hw) w rfl

theorem resolve_other_leaves (r : Resolve) (l : Nat) (hr : r = .once l ∨ r = .many l) (v : Val) (w : World) (l' : Nat)
    (h : l ≠ l') : ((resolveReq r v w).2.2.leaf l') = w.leaf l' := by
  rcases hr with rfl | rfl
  · rw [resolveReq_once, dropSender_leaf_other _ _ _ h]
    split
    · exact deliver_leaf_other w l l' v h
    · rfl
  · rw [resolveReq_many]
    split
    · exact deliver_leaf_other w l l' v h
    · rfl

theorem wokenBy_mono {wk wk' : Waker} {w w' : World} (hm : Mono wk' w w') (h : wokenBy wk w) : wokenBy wk w' := by
  cases wk with
  | root _ => trivial
  | task _ _ s => exact hm.woken s h

theorem wokenBy_dropSender (wk : Waker) (w : World) (l : Nat) (h : wokenBy wk w) : wokenBy wk (w.dropSender l) :=
  World.dropSender_inv (J := wokenBy wk) (fun _ hw => by cases wk <;> exact hw) (fun _ hw => by cases wk <;> exact hw)
    (fun _ k hw => wokenBy_mono (mono_wake k k _) hw) w h

/-- resolving a request whose channel holds the waker `wk` (the asking task, parked there by its last poll — K2) wakes
    that waker: a task waker's `woken` flag is set; of a root waker `wokenBy` says nothing -/
theorem resolve_wakes_asker (r : Resolve) (l : Nat) (hr : r = .once l ∨ r = .many l) (v : Val) (w : World) (wk : Waker)
    (hw : (w.leaf l).waker = some wk) (ha : (w.leaf l).receiverAlive = true) :
    wokenBy wk (resolveReq r v w).2.2 := by
  have hd : wokenBy wk (w.deliver l v) := by
    simp only [World.deliver, hw]
    exact wokenBy_wake_self wk _
  rcases hr with rfl | rfl
  · rw [resolveReq_once, if_pos ha]
    exact wokenBy_dropSender wk _ l hd
  · rw [resolveReq_many, if_pos ha]
    exact hd

theorem poll_binds_value (pn : Waker → Nat → World → Option (NextRes × World)) (f : Nat) (wk : Waker) (sink : Sink)
    (env : Env) (x l : Nat) (rest : List Instr) (w : World) (v : Val) (q : List Val) (hq : (w.leaf l).queue = v :: q) :
    pollBlock pn (f + 1) wk sink (.mk env (.req x l) rest) w =
      pollBlock pn f wk sink (.mk (env.set x v) .idle rest) (w.dropReceiver l) := by
  conv => lhs; unfold pollBlock
  simp only [hq]

theorem poll_stream_binds_value (pn : Waker → Nat → World → Option (NextRes × World)) (f : Nat) (wk : Waker) (sink : Sink)
    (env : Env) (x l count limit : Nat) (body rest : List Instr) (w : World) (v : Val) (q : List Val)
    (hq : (w.leaf l).queue = v :: q) (hlim : ¬ (limit > 0 ∧ count ≥ limit)) :
    pollBlock pn (f + 1) wk sink (.mk env (.streamWait x l count limit body) rest) w =
      pollBlock pn f wk sink (.mk env (.streamBody x l count limit body (.mk (env.set x v) .idle body)) rest)
        (w.modLeaf l fun lf => { lf with queue := q }) := by
  conv => lhs; unfold pollBlock
  have : (decide (limit > 0) && decide (count ≥ limit)) = false := by
    simp only [Bool.and_eq_false_imp, decide_eq_true_eq, decide_eq_false_iff_not]
    intro h1 h2; exact hlim ⟨h1, h2⟩
  simp only [this, hq]
  simp

end M.Rt
