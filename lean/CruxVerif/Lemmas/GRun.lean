/- Channel ownership over whole runs, for EVERY command (any nesting of combinators), direct host. -/
import CruxVerif.Lemmas.GExec
import CruxVerif.Lemmas.HostLtBuild
namespace M.Rt

theorem G_append_cmd (l : Nat) (w : World) (x : CmdSt) : G l ({ w with cmds := w.cmds ++ [x] } : World) = G l w + cmdCnt l x := by
  simp [G, List.map_append]

theorem cmdCnt_single (l s : Nat) (env : Env) (is : List Instr) (x : CmdSt)
    (hx : x = { tasks := ((Slab.empty : Slab Task).insert ⟨s, .mk env .idle is⟩).2, ready := [0], abortFlag := s }) :
    cmdCnt l x = 0 := by
  subst hx
  simp [cmdCnt, cnt, Slab.insert, Slab.empty, Slab.values, taskRefs, refsB, refsP]

theorem dec_newCmd (env : Env) (is : List Instr) (w : World) : Dec w (newCmd env is w).2 := by
  unfold newCmd
  simp only
  refine ⟨?_, rfl⟩
  intro l
  rw [G_append_cmd, cmdCnt_single l _ env is _ rfl]
  have : G l w.newMeta.2 = G l w := G_of_cmds rfl
  omega

theorem dec_spawnOn (cid : Nat) (env : Env) (is : List Instr) (w : World) : Dec w (spawnOn cid env is w) := by
  unfold spawnOn
  simp only
  refine ⟨?_, rfl⟩
  intro l
  have := G_spawn l w.newMeta.2 cid ⟨w.newMeta.1, .mk env .idle is⟩
  rw [refs_idle] at this
  have h2 : G l w.newMeta.2 = G l w := G_of_cmds rfl
  simp only [List.count_nil, Nat.add_zero] at this
  omega

theorem dec_instantiate (env : Env) : (c : Cmd) → (w : World) → Dec w (instantiate env c w).2 :=
  fun c w => instantiate_inv (J := Dec w) (fun env is _ h => h.trans (dec_newCmd env is _))
    (fun cid env is _ h => h.trans (dec_spawnOn cid env is _)) (fun _ _ h => h.trans (Dec.of_eq (fun _ => G_of_cmds rfl) rfl))
    env c w (Dec.refl w)

theorem dec_instantiateAll (env : Env) : (cs : List Cmd) → (w : World) → Dec w (instantiateAll env cs w).2 :=
  fun cs w => instantiateAll_inv (J := Dec w) (fun env is _ h => h.trans (dec_newCmd env is _))
    (fun cid env is _ h => h.trans (dec_spawnOn cid env is _)) (fun _ _ h => h.trans (Dec.of_eq (fun _ => G_of_cmds rfl) rfl))
    env cs w (Dec.refl w)

/-- the invariant of whole runs -/
structure GOwn (w : World) : Prop where
  hl : HL w
  bound : ∀ l, G l w ≤ bnd w l

theorem GOwn.step {w w' : World} (h : GOwn w) (hl' : HL w') (g : GLe w [] w' []) : GOwn w' := by
  refine ⟨hl', ?_⟩
  intro l
  have a := g.cnt l
  simp only [List.count_nil, Nat.zero_add] at a
  have b := fresh_bnd w w' g.len l (G l w) (h.bound l)
  omega

theorem GOwn.same {w w' : World} (h : GOwn w) (f : TK0 w w') (hg : ∀ l, G l w' = G l w)
    (hlen : w'.leaves.length = w.leaves.length) : GOwn w' :=
  h.step (h.hl.tk0 f) (GLe.of_same [] hg hlen)

theorem len_resolveReq (r : Resolve) (v : Val) (w : World) : (resolveReq r v w).2.2.leaves.length = w.leaves.length :=
  (fr_resolveReq 0 r v w).len
theorem len_dropReq (r : Resolve) (w : World) : (dropReq r w).2.leaves.length = w.leaves.length :=
  (fr_dropReq 0 r w).len

end M.Rt

namespace M.Hosts
open M.Rt

theorem gown_ops : DirectOps fun _ => GOwn where
  settle := fun cid w w' h hw => hw.step (runUntilSettled_hl cid w w' h hw.hl).1 (runUntilSettled_g cid w w' h hw.hl)
  effs := fun cid w hw => hw.same (tk_modCmd w cid _ (fun _ => rfl) (fun _ => rfl))
    (fun l => G_modCmd_same l w cid _ (fun _ => rfl) (fun _ => rfl)) rfl
  evs := fun cid w hw => hw.same (tk_modCmd w cid _ (fun _ => rfl) (fun _ => rfl))
    (fun l => G_modCmd_same l w cid _ (fun _ => rfl) (fun _ => rfl)) rfl
  shell := fun _ =>
    { res := fun w r v hw => hw.same (tk0_resolveReq r v w) (fun l => G_resolveReq l r v w) (len_resolveReq r v w)
      ds := fun w x hw => hw.same (tk0_dropSender w x) (fun l => G_dropSender l w x) (len_dropSender w x)
      ab := fun w n hw =>
        doAbort_inv (fun W c k => k.same (tk_abortCmd W c) (fun l => G_abortCmd l W c) (len_abortCmd W c)) n w hw }

/-- **Every request channel has at most one waiting task — for EVERY command and EVERY history.** For every command built
    from host-free task bodies with ANY nesting of `then`, `and`, `all`, `map_effect`, `map_event`, `abortable`, held directly
    by a test, after every history of resolutions, drops, aborts and polls: summed over ALL commands (the command, everything
    it hosts at any depth, their task slabs and spawn queues) every leaf channel is referenced by at most one suspended or
    queued task, and none references a channel that does not exist. -/
theorem runDirect_gown (c : Cmd) (hc : cmdHF c = true) (canon : Bool) (acts : List Action) (os : List Obs) (d : Direct)
    (h : runDirect c canon acts = some (os, d)) : GOwn d.w := by
  refine (runDirect_inv gown_ops c canon ?_ acts os d h).2
  show GOwn (instantiate {} c {}).2
  refine ⟨(instantiate_built {} c {} hc HL_empty).hl, ?_⟩
  intro l
  have := (dec_instantiate {} c {}).g l
  have h0 : G l ({} : World) = 0 := rfl
  omega

end M.Hosts
