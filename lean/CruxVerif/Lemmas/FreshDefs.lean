/-
Freshness of waker serials — a GLOBAL invariant of the runtime model.
Every poll gets a waker with a serial drawn from the counter `nextSerial`; `World.holders` counts the places that hold a
given serial, which models `Arc::strong_count` of that poll's waker faithfully only if a serial is never handed out twice
and never appears before it is handed out. `SOkN n w`: every serial that occurs anywhere in `w` (leaf waker slots,
join-handle queues, command waker slots, the `woken` set) is below `n`; `SOk w` := `SOkN w.nextSerial w`.
This file: the invariant and its preservation by the primitive world operations and by dropping futures, tasks and
commands (which only close channels and wake stale wakers).
-/
import CruxVerif.Lemmas.Resolve
namespace M.Rt

def wkB (n : Nat) : Waker → Prop
  | .task _ _ s => s < n
  | .root _ => True

def owkB (n : Nat) : Option Waker → Prop
  | some k => wkB n k
  | none => True

structure SOkN (n : Nat) (w : World) : Prop where
  leaves : ∀ lf ∈ w.leaves, owkB n lf.waker
  metas : ∀ m ∈ w.metas, ∀ k ∈ m.joinWakers, wkB n k
  cmds : ∀ c ∈ w.cmds, owkB n c.waker
  woken : ∀ s ∈ w.woken, s < n

def SOk (w : World) : Prop := SOkN w.nextSerial w

theorem wkB_mono {n n' : Nat} (h : n ≤ n') {k : Waker} (hk : wkB n k) : wkB n' k := by
  cases k with
  | task _ _ s => exact Nat.lt_of_lt_of_le hk h
  | root _ => trivial

theorem owkB_mono {n n' : Nat} (h : n ≤ n') {k : Option Waker} (hk : owkB n k) : owkB n' k := by
  cases k with
  | none => trivial
  | some k => exact wkB_mono h hk

theorem SOkN.mono {n n' : Nat} (h : n ≤ n') {w : World} (hw : SOkN n w) : SOkN n' w :=
  ⟨fun lf hl => owkB_mono h (hw.leaves lf hl), fun m hm k hk => wkB_mono h (hw.metas m hm k hk),
   fun c hc => owkB_mono h (hw.cmds c hc), fun s hs => Nat.lt_of_lt_of_le (hw.woken s hs) h⟩

theorem SOkN.of_same {n : Nat} {w w' : World} (h : SOkN n w) (hl : w'.leaves = w.leaves) (hm : w'.metas = w.metas)
    (hc : w'.cmds = w.cmds) (hw : w'.woken = w.woken) : SOkN n w' :=
  ⟨by rw [hl]; exact h.leaves, by rw [hm]; exact h.metas, by rw [hc]; exact h.cmds, by rw [hw]; exact h.woken⟩

theorem SOkN.modCmd {n : Nat} {w : World} (h : SOkN n w) (c : Nat) (f : CmdSt → CmdSt)
    (hf : ∀ x, owkB n x.waker → owkB n (f x).waker) : SOkN n (w.modCmd c f) :=
  ⟨h.leaves, h.metas, mem_modifyNth (fun x : CmdSt => owkB n x.waker) f hf w.cmds c h.cmds, h.woken⟩

theorem SOkN.modLeaf {n : Nat} {w : World} (h : SOkN n w) (l : Nat) (f : Leaf → Leaf)
    (hf : ∀ x, owkB n x.waker → owkB n (f x).waker) : SOkN n (w.modLeaf l f) :=
  ⟨mem_modifyNth (fun x : Leaf => owkB n x.waker) f hf w.leaves l h.leaves, h.metas, h.cmds, h.woken⟩

theorem SOkN.modMeta {n : Nat} {w : World} (h : SOkN n w) (s : Nat) (f : Meta → Meta)
    (hf : ∀ x, (∀ k ∈ x.joinWakers, wkB n k) → ∀ k ∈ (f x).joinWakers, wkB n k) : SOkN n (w.modMeta s f) :=
  ⟨h.leaves, mem_modifyNth (fun x : Meta => ∀ k ∈ x.joinWakers, wkB n k) f hf w.metas s h.metas, h.cmds, h.woken⟩

theorem SOkN.newLeaf {n : Nat} {w : World} (h : SOkN n w) (k : Option Waker) (lg : Bool) (hk : owkB n k) :
    SOkN n (w.newLeaf k lg).2 := by
  refine ⟨?_, h.metas, h.cmds, h.woken⟩
  intro lf hlf
  simp only [World.newLeaf, List.mem_append, List.mem_singleton] at hlf
  rcases hlf with hlf | rfl
  · exact h.leaves lf hlf
  · exact hk

theorem SOkN.newMeta {n : Nat} {w : World} (h : SOkN n w) : SOkN n w.newMeta.2 := by
  refine ⟨h.leaves, ?_, h.cmds, h.woken⟩
  intro m hm
  simp only [World.newMeta, List.mem_append, List.mem_singleton] at hm
  rcases hm with hm | rfl
  · exact h.metas m hm
  · intro k hk; cases hk

theorem SOkN.sinkEvent {n : Nat} {w : World} (h : SOkN n w) (s : Sink) (e : Ev) : SOkN n (w.sinkEvent s e) := by
  cases s with
  | cmd c => exact h.modCmd c _ (fun _ hx => hx)
  | core => exact h.of_same rfl rfl rfl rfl

theorem SOkN.sinkEffect {n : Nat} {w : World} (h : SOkN n w) (s : Sink) (e : Eff) : SOkN n (w.sinkEffect s e) := by
  cases s with
  | cmd c => exact h.modCmd c _ (fun _ hx => hx)
  | core => exact h.of_same rfl rfl rfl rfl

theorem SOkN.forward {n : Nat} {w : World} (h : SOkN n w) (c : Nat) (o : Output) : SOkN n (w.forward c o) := by
  cases o <;> exact h.modCmd c _ fun _ hx => hx

theorem SOkN.anomaly {n : Nat} {w : World} (h : SOkN n w) (s : String) : SOkN n (w.anomaly s) := h.of_same rfl rfl rfl rfl

theorem SOkN.woken_cons {n : Nat} {w : World} (h : SOkN n w) (s : Nat) (hs : s < n) :
    SOkN n ({ w with woken := s :: w.woken } : World) := by
  refine ⟨h.leaves, h.metas, h.cmds, ?_⟩
  intro x hx
  simp only [List.mem_cons] at hx
  rcases hx with rfl | hx
  · exact hs
  · exact h.woken x hx

theorem forall_getD {α : Type} {P : α → Prop} {l : List α} (h : ∀ a ∈ l, P a) (i : Nat) {d : α} (hd : P d) :
    P (l[i]?.getD d) := by
  cases hc : l[i]? with
  | none => exact hd
  | some x => exact h x (List.mem_of_getElem? hc)

theorem SOkN.cmd_waker {n : Nat} {w : World} (h : SOkN n w) (c : Nat) : owkB n (w.cmd c).waker :=
  forall_getD (P := fun x : CmdSt => owkB n x.waker) h.cmds c trivial

theorem SOkN.leaf_waker {n : Nat} {w : World} (h : SOkN n w) (l : Nat) : owkB n (w.leaf l).waker :=
  forall_getD (P := fun x : Leaf => owkB n x.waker) h.leaves l trivial

theorem SOkN.meta_wakers {n : Nat} {w : World} (h : SOkN n w) (s : Nat) : ∀ k ∈ (w.getMeta s).joinWakers, wkB n k :=
  forall_getD (P := fun m : Meta => ∀ k ∈ m.joinWakers, wkB n k) h.metas s fun _ hk => nomatch hk

theorem SOkN.wake {n : Nat} : ∀ (f : Nat) (k : Waker) (w : World), SOkN n w → wkB n k → SOkN n (M.Rt.wake f k w) := by
  intro f
  induction f with
  | zero =>
    intro k w h hk
    cases k with
    | root e => exact h.of_same rfl rfl rfl rfl
    | task c t s => exact h.anomaly _
  | succ f ih =>
    intro k w h hk
    cases k with
    | root e => exact h.of_same rfl rfl rfl rfl
    | task cid tid serial =>
      unfold M.Rt.wake
      simp only
      have hpw := h.cmd_waker cid
      have h1 : SOkN n (if (w.cmd cid).alive = true then
          w.modCmd cid fun c => { c with ready := c.ready ++ [tid] } else w) := by
        split
        · exact h.modCmd cid _ (fun _ hx => hx)
        · exact h
      have h2 := h1.woken_cons serial hk
      split
      · exact h2
      · rename_i pw hpweq
        rw [hpweq] at hpw
        exact ih pw _ (h2.modCmd cid _ fun _ _ => trivial) hpw

theorem SOkN.World_wake {n : Nat} {w : World} (h : SOkN n w) (k : Waker) (hk : wkB n k) : SOkN n (w.wake k) :=
  SOkN.wake _ k w h hk

theorem SOkN.wakeAll {n : Nat} : ∀ (ks : List Waker) (w : World), SOkN n w → (∀ k ∈ ks, wkB n k) → SOkN n (w.wakeAll ks) :=
  fun ks w h hk => foldl_inv_mem ks w (fun _ k hm hb => hb.World_wake k (hk k hm)) h

theorem SOkN.dropReceiver {n : Nat} {w : World} (h : SOkN n w) (l : Nat) : SOkN n (w.dropReceiver l) :=
  h.modLeaf l _ (fun _ hx => hx)

theorem SOkN.dropSender {n : Nat} {w : World} (h : SOkN n w) (l : Nat) : SOkN n (w.dropSender l) := by
  unfold World.dropSender
  simp only
  have hlw := h.leaf_waker l
  split
  · exact h.modLeaf l _ (fun _ hx => hx)
  · split
    · rename_i k hk
      rw [hk] at hlw
      refine SOkN.World_wake ?_ k hlw
      exact h.modLeaf l _ fun _ _ => trivial
    · exact h.modLeaf l _ fun _ _ => trivial

theorem SOkN.abortCmd {n : Nat} {w : World} (h : SOkN n w) (c : Nat) : SOkN n (w.abortCmd c) := by
  unfold World.abortCmd
  simp only
  have hcw := h.cmd_waker c
  have h1 : SOkN n (w.modMeta (w.cmd c).abortFlag fun m => { m with aborted := true }) := h.modMeta _ _ (fun _ hx => hx)
  split
  · exact h1
  · rename_i k hk
    rw [hk] at hcw
    refine SOkN.World_wake ?_ k hcw
    exact h1.modCmd c _ fun _ _ => trivial

theorem SOkN.deliver {n : Nat} {w : World} (h : SOkN n w) (l : Nat) (v : Val) : SOkN n (w.deliver l v) := by
  have h1 : SOkN n (w.modLeaf l fun lf => { lf with queue := lf.queue ++ [v], waker := none }) :=
    h.modLeaf l _ fun _ _ => trivial
  have hlw := h.leaf_waker l
  unfold World.deliver
  split
  · rename_i k hk
    rw [hk] at hlw
    exact h1.World_wake k hlw
  · exact h1

theorem SOkN.dropTaskMeta {n : Nat} {w : World} (h : SOkN n w) (s : Nat) :
    SOkN n (w.modMeta s fun m => { m with taskAlive := false, joinWakers := [] }) :=
  h.modMeta s _ fun _ _ _ hk => nomatch hk

theorem SOkN.dropBlock {n : Nat} (dc : Nat → World → World) (hdc : ∀ c w, SOkN n w → SOkN n (dc c w)) :
    (b : Block) → (w : World) → SOkN n w → SOkN n (dropBlock dc b w) :=
  dropBlock_inv hdc fun _ l h => h.dropReceiver l

theorem SOkN.dropPend {n : Nat} (dc : Nat → World → World) (hdc : ∀ c w, SOkN n w → SOkN n (dc c w)) :
    (p : Pend) → (w : World) → SOkN n w → SOkN n (dropPend dc p w) :=
  dropPend_inv hdc fun _ l h => h.dropReceiver l

theorem SOkN.dropTask {n : Nat} (dc : Nat → World → World) (hdc : ∀ c w, SOkN n w → SOkN n (dc c w)) (t : Task)
    (w : World) (h : SOkN n w) : SOkN n (M.Rt.dropTask dc t w) :=
  dropTask_inv hdc (fun _ l h => h.dropReceiver l) (fun _ s h => h.dropTaskMeta s) t w h

theorem SOkN.World_drops (n : Nat) : (∀ w c, SOkN n w → SOkN n (w.dropCmd c)) ∧ (∀ w b, SOkN n w → SOkN n (w.dropBlock b)) ∧
    (∀ w t, SOkN n w → SOkN n (w.dropTask t)) :=
  World.drop_inv (fun _ l h => h.dropReceiver l) (fun _ s h => h.dropTaskMeta s) (fun _ l h => h.dropSender l)
    (fun _ s h => h.anomaly s) (fun _ c h => h.modCmd c _ fun _ hx => hx)

theorem SOkN.World_dropCmd {n : Nat} {w : World} (h : SOkN n w) (c : Nat) : SOkN n (w.dropCmd c) :=
  (SOkN.World_drops n).1 w c h

theorem SOkN.World_dropBlock {n : Nat} {w : World} (h : SOkN n w) (b : Block) : SOkN n (w.dropBlock b) :=
  (SOkN.World_drops n).2.1 w b h

theorem SOkN.World_dropTask {n : Nat} {w : World} (h : SOkN n w) (t : Task) : SOkN n (w.dropTask t) :=
  (SOkN.World_drops n).2.2 w t h

theorem ns_wake : ∀ (f : Nat) (k : Waker) (w : World), (wake f k w).nextSerial = w.nextSerial :=
  fun f k w => (wake_frame f k w).2.2.2.1

theorem ns_World_wake (w : World) (k : Waker) : (w.wake k).nextSerial = w.nextSerial := ns_wake _ k w

theorem ns_wakeAll (ks : List Waker) (w : World) : (w.wakeAll ks).nextSerial = w.nextSerial :=
  foldl_eq World.nextSerial World.wake ns_World_wake ks w

theorem ns_dropSender (w : World) (l : Nat) : (w.dropSender l).nextSerial = w.nextSerial :=
  (World.dropSender_frame w l).2.2.2.1

theorem ns_abortCmd (w : World) (c : Nat) : (w.abortCmd c).nextSerial = w.nextSerial :=
  (World.abortCmd_frame w c).2.2.2.1

theorem ns_deliver (w : World) (l : Nat) (v : Val) : (w.deliver l v).nextSerial = w.nextSerial :=
  World.deliver_inv (J := (·.nextSerial = w.nextSerial)) (fun _ h => h) (fun w' wk h => (ns_World_wake w' wk).trans h) w rfl

theorem ns_sinkEvent (w : World) (s : Sink) (e : Ev) : (w.sinkEvent s e).nextSerial = w.nextSerial :=
  (World.sinkEvent_frame w s e).2.2.2.1

theorem ns_sinkEffect (w : World) (s : Sink) (e : Eff) : (w.sinkEffect s e).nextSerial = w.nextSerial :=
  (World.sinkEffect_frame w s e).2.2.2.1

theorem ns_forward (w : World) (c : Nat) (o : Output) : (w.forward c o).nextSerial = w.nextSerial := by
  cases o <;> rfl

theorem ns_dropPend (dc : Nat → World → World) (hdc : ∀ c w, (dc c w).nextSerial = w.nextSerial) :
    (p : Pend) → (w : World) → (dropPend dc p w).nextSerial = w.nextSerial :=
  fun p w => dropPend_inv (J := (·.nextSerial = w.nextSerial)) (fun c w' h => (hdc c w').trans h) (fun _ _ h => h) p w rfl

theorem ns_World_drops (n : Nat) : (∀ (w : World) c, w.nextSerial = n → (w.dropCmd c).nextSerial = n) ∧
    (∀ (w : World) b, w.nextSerial = n → (w.dropBlock b).nextSerial = n) ∧
    (∀ (w : World) t, w.nextSerial = n → (w.dropTask t).nextSerial = n) :=
  World.drop_inv (J := (·.nextSerial = n)) (fun _ _ h => h) (fun _ _ h => h) (fun w l h => (ns_dropSender w l).trans h)
    (fun _ _ h => h) (fun _ _ h => h)

theorem ns_World_dropCmd (w : World) (c : Nat) : (w.dropCmd c).nextSerial = w.nextSerial := (ns_World_drops _).1 w c rfl
theorem ns_World_dropBlock (w : World) (b : Block) : (w.dropBlock b).nextSerial = w.nextSerial := (ns_World_drops _).2.1 w b rfl
theorem ns_World_dropTask (w : World) (t : Task) : (w.dropTask t).nextSerial = w.nextSerial := (ns_World_drops _).2.2 w t rfl

theorem SOk.keep {w w' : World} (h : SOk w) (hn : w'.nextSerial = w.nextSerial) (hs : SOkN w.nextSerial w') : SOk w' := by
  unfold SOk; rw [hn]; exact hs

end M.Rt
