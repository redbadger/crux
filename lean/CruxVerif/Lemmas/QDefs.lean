/-
Quiescence of a Core call (flat apps: commands without combinators + host-free legacy tasks).
`QS me w w'`: what one step made on behalf of command `me` (or of a legacy task / the shell, `me = none`) may do to the
scheduling state: liveness and abort flags are kept, the executor's queues only grow, a command's waker is either kept or
taken — and if it was a root waker its executor task has been queued — and the work queues of every OTHER command change
only together with taking that command's waker.
-/
import CruxVerif.Lemmas.K2Steps

namespace M.Rt

structure QS (me : Option Nat) (w w' : World) : Prop where
  len : w'.cmds.length = w.cmds.length
  alive : ∀ c, (w'.cmd c).alive = (w.cmd c).alive
  flag : ∀ c, (w'.cmd c).abortFlag = (w.cmd c).abortFlag
  metaA : ∀ s, (w.getMeta s).aborted = true → (w'.getMeta s).aborted = true
  ready : ∀ e, e ∈ w.execReady → e ∈ w'.execReady
  spawn : ∀ t, t ∈ w.execSpawn → t ∈ w'.execSpawn
  waker : ∀ c, (w'.cmd c).waker = (w.cmd c).waker ∨
      ((w'.cmd c).waker = none ∧ ∀ etid, (w.cmd c).waker = some (.root etid) → etid ∈ w'.execReady)
  other : ∀ c, some c ≠ me → (w'.cmd c).tasks = (w.cmd c).tasks ∧ (w'.cmd c).spawnQ = (w.cmd c).spawnQ ∧
      (w'.cmd c).effects = (w.cmd c).effects ∧ (w'.cmd c).events = (w.cmd c).events
  work : ∀ c, some c ≠ me → (w'.cmd c).ready = (w.cmd c).ready ∨ (w'.cmd c).waker = none

theorem QS.refl (me : Option Nat) (w : World) : QS me w w :=
  ⟨rfl, fun _ => rfl, fun _ => rfl, fun _ h => h, fun _ h => h, fun _ h => h, fun _ => Or.inl rfl,
   fun _ _ => ⟨rfl, rfl, rfl, rfl⟩, fun _ _ => Or.inl rfl⟩

theorem QS.trans {me : Option Nat} {w1 w2 w3 : World} (a : QS me w1 w2) (b : QS me w2 w3) : QS me w1 w3 := by
  refine ⟨b.len.trans a.len, fun c => (b.alive c).trans (a.alive c), fun c => (b.flag c).trans (a.flag c),
    fun s h => b.metaA s (a.metaA s h), fun e h => b.ready e (a.ready e h), fun t h => b.spawn t (a.spawn t h), ?_, ?_, ?_⟩
  · intro c
    rcases b.waker c with hb | ⟨hb, hb2⟩
    · rcases a.waker c with ha | ⟨ha, ha2⟩
      · exact Or.inl (hb.trans ha)
      · exact Or.inr ⟨hb.trans ha, fun etid h => b.ready _ (ha2 etid h)⟩
    · rcases a.waker c with ha | ⟨ha, ha2⟩
      · exact Or.inr ⟨hb, fun etid h => hb2 etid (ha.trans h)⟩
      · exact Or.inr ⟨hb, fun etid h => b.ready _ (ha2 etid h)⟩
  · intro c hc
    have hb := b.other c hc
    have ha := a.other c hc
    exact ⟨hb.1.trans ha.1, hb.2.1.trans ha.2.1, hb.2.2.1.trans ha.2.2.1, hb.2.2.2.trans ha.2.2.2⟩
  · intro c hc
    rcases b.work c hc with hb | hb
    · rcases a.work c hc with ha | ha
      · exact Or.inl (hb.trans ha)
      · rcases b.waker c with h | h
        · exact Or.inr (h.trans ha)
        · exact Or.inr h.1
    · exact Or.inr hb

theorem QS.aborted {me : Option Nat} {w w' : World} (h : QS me w w') (c : Nat) (ha : w.aborted c = true) : w'.aborted c = true := by
  unfold World.aborted at ha ⊢
  rw [h.flag c]
  exact h.metaA _ ha

theorem QS.aborted_false {me : Option Nat} {w w' : World} (h : QS me w w') (c : Nat) (hna : w'.aborted c = false) :
    w.aborted c = false := by
  cases ha : w.aborted c with
  | false => rfl
  | true => rw [h.aborted c ha] at hna; cases hna

theorem QS.of_cmds {me : Option Nat} {w w' : World} (hc : w'.cmds = w.cmds)
    (hm : ∀ s, (w.getMeta s).aborted = true → (w'.getMeta s).aborted = true)
    (hr : ∀ e, e ∈ w.execReady → e ∈ w'.execReady) (hs : ∀ t, t ∈ w.execSpawn → t ∈ w'.execSpawn) : QS me w w' := by
  have hcmd : ∀ c, w'.cmd c = w.cmd c := fun c => by simp [World.cmd, hc]
  exact ⟨by rw [hc], fun c => by rw [hcmd], fun c => by rw [hcmd], hm, hr, hs, fun c => Or.inl (by rw [hcmd]),
    fun c _ => by rw [hcmd]; exact ⟨rfl, rfl, rfl, rfl⟩, fun c _ => Or.inl (by rw [hcmd])⟩

theorem QS.of_fields {me : Option Nat} {w w' : World} (hc : w'.cmds = w.cmds) (hm : w'.metas = w.metas)
    (hr : ∀ e, e ∈ w.execReady → e ∈ w'.execReady) (hs : ∀ t, t ∈ w.execSpawn → t ∈ w'.execSpawn) : QS me w w' :=
  QS.of_cmds hc (fun s h => by simpa [World.getMeta, hm] using h) hr hs

theorem QS.fields {me : Option Nat} (w w' : World) (hc : w'.cmds = w.cmds) (hm : w'.metas = w.metas)
    (hr : w'.execReady = w.execReady) (hs : w'.execSpawn = w.execSpawn) : QS me w w' :=
  QS.of_fields hc hm (fun e h => by rw [hr]; exact h) (fun t h => by rw [hs]; exact h)

theorem QS.modMeta {me : Option Nat} (w : World) (s : Nat) (f : Meta → Meta) (hf : ∀ m, m.aborted = true → (f m).aborted = true) :
    QS me w (w.modMeta s f) := by
  refine QS.of_cmds rfl (fun s' h => ?_) (fun _ h => h) (fun _ h => h)
  rw [World.getMeta_modMeta]
  split
  · exact hf _ h
  · exact h

theorem QS.newMeta {me : Option Nat} (w : World) : QS me w w.newMeta.2 :=
  QS.of_cmds rfl (fun s h => by rw [World.getMeta_newMeta]; exact h) (fun _ h => h) (fun _ h => h)

theorem QS.of_cmd {me : Option Nat} {w w' : World} (c : Nat) (hlen : w'.cmds.length = w.cmds.length)
    (oth : ∀ d, c ≠ d → w'.cmd d = w.cmd d) (hm : w'.metas = w.metas)
    (hr : ∀ e, e ∈ w.execReady → e ∈ w'.execReady) (hs : ∀ t, t ∈ w.execSpawn → t ∈ w'.execSpawn)
    (alive : (w'.cmd c).alive = (w.cmd c).alive) (flag : (w'.cmd c).abortFlag = (w.cmd c).abortFlag)
    (waker : (w'.cmd c).waker = (w.cmd c).waker ∨
      ((w'.cmd c).waker = none ∧ ∀ etid, (w.cmd c).waker = some (.root etid) → etid ∈ w'.execReady))
    (other : some c ≠ me → (w'.cmd c).tasks = (w.cmd c).tasks ∧ (w'.cmd c).spawnQ = (w.cmd c).spawnQ ∧
      (w'.cmd c).effects = (w.cmd c).effects ∧ (w'.cmd c).events = (w.cmd c).events)
    (work : some c ≠ me → (w'.cmd c).ready = (w.cmd c).ready ∨ (w'.cmd c).waker = none) : QS me w w' := by
  refine ⟨hlen, ?_, ?_, fun s h => by simpa [World.getMeta, hm] using h, hr, hs, ?_, ?_, ?_⟩
  · intro d; by_cases e : c = d
    · subst e; exact alive
    · rw [oth d e]
  · intro d; by_cases e : c = d
    · subst e; exact flag
    · rw [oth d e]
  · intro d; by_cases e : c = d
    · subst e; exact waker
    · rw [oth d e]; exact Or.inl rfl
  · intro d hd; by_cases e : c = d
    · subst e; exact other hd
    · rw [oth d e]; exact ⟨rfl, rfl, rfl, rfl⟩
  · intro d hd; by_cases e : c = d
    · subst e; exact work hd
    · rw [oth d e]; exact Or.inl rfl

theorem QS.modCmd_me (w : World) (c : Nat) (f : CmdSt → CmdSt) (ha : ∀ x, (f x).alive = x.alive)
    (hfl : ∀ x, (f x).abortFlag = x.abortFlag) (hw : ∀ x, (f x).waker = x.waker) : QS (some c) w (w.modCmd c f) :=
  QS.of_cmd c (by simp [World.modCmd, modifyNth_length]) (fun d h => World.cmd_modCmd_other w c d f h) rfl (fun _ h => h)
    (fun _ h => h) (cmd_modCmd_keep (·.alive) w c f ha) (cmd_modCmd_keep (·.abortFlag) w c f hfl)
    (Or.inl (cmd_modCmd_keep (·.waker) w c f hw)) (fun h => absurd rfl h) (fun h => absurd rfl h)

theorem QS.modCmd_nowaker {me : Option Nat} (w : World) (c : Nat) (f : CmdSt → CmdSt) (ha : ∀ x, (f x).alive = x.alive)
    (hfl : ∀ x, (f x).abortFlag = x.abortFlag) (hw : ∀ x, (f x).waker = none)
    (hk : ∀ x, (f x).tasks = x.tasks ∧ (f x).spawnQ = x.spawnQ ∧ (f x).effects = x.effects ∧ (f x).events = x.events)
    (hq : ∀ etid, (w.cmd c).waker = some (.root etid) → etid ∈ w.execReady) : QS me w (w.modCmd c f) :=
  have wk : ((w.modCmd c f).cmd c).waker = none := cmd_modCmd_const (·.waker) none w c f hw rfl
  QS.of_cmd c (by simp [World.modCmd, modifyNth_length]) (fun d h => World.cmd_modCmd_other w c d f h) rfl (fun _ h => h)
    (fun _ h => h) (cmd_modCmd_keep (·.alive) w c f ha) (cmd_modCmd_keep (·.abortFlag) w c f hfl) (Or.inr ⟨wk, hq⟩)
    (fun _ => ⟨cmd_modCmd_keep (·.tasks) w c f (fun x => (hk x).1), cmd_modCmd_keep (·.spawnQ) w c f (fun x => (hk x).2.1),
      cmd_modCmd_keep (·.effects) w c f (fun x => (hk x).2.2.1), cmd_modCmd_keep (·.events) w c f (fun x => (hk x).2.2.2)⟩)
    (fun _ => Or.inr wk)

end M.Rt
