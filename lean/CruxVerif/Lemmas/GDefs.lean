/-
Global ownership of request channels: the measure `G l w` = number of references to leaf `l` held by ALL stored tasks of
ALL commands (task slabs and spawn queues), the relation `GLe` (as `Le`, RefsDefs, with the global measure), and the
operations that do not change the measure.
-/
import CruxVerif.Lemmas.OwnExec
namespace M.Rt

/-- references to leaf `l` held by the stored and queued tasks of all commands -/
def G (l : Nat) (w : World) : Nat := (w.cmds.map (cmdCnt l)).sum

theorem cmdCnt_default (l : Nat) : cmdCnt l ({} : CmdSt) = 0 := rfl

theorem sum_modifyNth (g : CmdSt → Nat) (hd : g {} = 0) (f : CmdSt → CmdSt) : ∀ (L : List CmdSt) (i : Nat),
    ((modifyNth L i f).map g).sum + g (L[i]?.getD {}) = (L.map g).sum + g ((modifyNth L i f)[i]?.getD {})
  | [], i => by simp [modifyNth]
  | x :: L, 0 => by simp [modifyNth]; omega
  | x :: L, i + 1 => by
    have := sum_modifyNth g hd f L i
    simp only [modifyNth, List.map_cons, List.sum_cons, List.getElem?_cons_succ]
    omega

theorem G_modCmd (l : Nat) (w : World) (c : Nat) (f : CmdSt → CmdSt) :
    G l (w.modCmd c f) + cmdCnt l (w.cmd c) = G l w + cmdCnt l ((w.modCmd c f).cmd c) :=
  sum_modifyNth (cmdCnt l) (cmdCnt_default l) f w.cmds c

theorem getD_le_sum (g : CmdSt → Nat) (h0 : g {} = 0) : ∀ (L : List CmdSt) (c : Nat), g (L[c]?.getD {}) ≤ (L.map g).sum
  | [], _ => by simp [h0]
  | _ :: _, 0 => by simp
  | _ :: xs, c + 1 => by
    have := getD_le_sum g h0 xs c
    simp only [List.getElem?_cons_succ, List.map_cons, List.sum_cons]; omega

theorem getD2_le_sum (g : CmdSt → Nat) (h0 : g {} = 0) : ∀ (L : List CmdSt) (c c' : Nat), c ≠ c' →
    g (L[c]?.getD {}) + g (L[c']?.getD {}) ≤ (L.map g).sum
  | [], _, _, _ => by simp [h0]
  | _ :: _, 0, 0, hne => absurd rfl hne
  | _ :: xs, 0, c' + 1, _ => by
    have := getD_le_sum g h0 xs c'
    simp only [List.getElem?_cons_zero, Option.getD_some, List.getElem?_cons_succ, List.map_cons, List.sum_cons]; omega
  | _ :: xs, c + 1, 0, _ => by
    have := getD_le_sum g h0 xs c
    simp only [List.getElem?_cons_zero, Option.getD_some, List.getElem?_cons_succ, List.map_cons, List.sum_cons]; omega
  | _ :: xs, c + 1, c' + 1, hne => by
    have := getD2_le_sum g h0 xs c c' (fun e => hne (by rw [e]))
    simp only [List.getElem?_cons_succ, List.map_cons, List.sum_cons]; omega

theorem cmdCnt_le_G (l : Nat) (w : World) (c : Nat) : cmdCnt l (w.cmd c) ≤ G l w :=
  getD_le_sum (cmdCnt l) (cmdCnt_default l) w.cmds c

theorem cmdCnt2_le_G (l : Nat) (w : World) (c c' : Nat) (hne : c ≠ c') : cmdCnt l (w.cmd c) + cmdCnt l (w.cmd c') ≤ G l w :=
  getD2_le_sum (cmdCnt l) (cmdCnt_default l) w.cmds c c' hne

theorem G_of_cmds {l : Nat} {w w' : World} (h : w'.cmds = w.cmds) : G l w' = G l w := by unfold G; rw [h]

theorem sum_eq_zero_of_getD (g : CmdSt → Nat) : ∀ (L : List CmdSt), (∀ q : Nat, g (L[q]?.getD {}) = 0) → (L.map g).sum = 0
  | [], _ => rfl
  | a :: L, h => by
    have h0 := h 0
    have := sum_eq_zero_of_getD g L fun q => by simpa using h (q + 1)
    simp only [List.getElem?_cons_zero, Option.getD_some] at h0
    simp only [List.map_cons, List.sum_cons, h0, this]

/-- the measure reads the commands only through `World.cmd`: trailing default states count nothing -/
theorem sum_getD_congr (g : CmdSt → Nat) (hd : g {} = 0) : ∀ (L L' : List CmdSt),
    (∀ q : Nat, g (L'[q]?.getD {}) = g (L[q]?.getD {})) → (L'.map g).sum = (L.map g).sum
  | [], L', h => sum_eq_zero_of_getD g L' fun q => by simpa [hd] using h q
  | a :: L, [], h => (sum_eq_zero_of_getD g (a :: L) fun q => by simpa [hd] using (h q).symm).symm
  | a :: L, b :: L', h => by
    have h0 := h 0
    have := sum_getD_congr g hd L L' fun q => by simpa using h (q + 1)
    simp only [List.getElem?_cons_zero, Option.getD_some] at h0
    simp only [List.map_cons, List.sum_cons, h0, this]

theorem G_of_fr {w w' : World} (h : ∀ c, Fr c w w') (l : Nat) : G l w' = G l w :=
  sum_getD_congr (cmdCnt l) (cmdCnt_default l) w.cmds w'.cmds fun c => (h c).cmdCnt l

theorem G_modCmd_same (l : Nat) (w : World) (c : Nat) (f : CmdSt → CmdSt) (hf : ∀ x, (f x).tasks = x.tasks)
    (hs : ∀ x, (f x).spawnQ = x.spawnQ) : G l (w.modCmd c f) = G l w :=
  G_of_fr (fun c' => fr_modCmd c' w c f hf hs) l

theorem G_modCmd_le (l : Nat) (w : World) (c : Nat) (f : CmdSt → CmdSt) (k : Nat)
    (hf : ∀ x, cmdCnt l (f x) ≤ cmdCnt l x + k) : G l (w.modCmd c f) ≤ G l w + k := by
  have h := G_modCmd l w c f
  have := World.cmd_modCmd_rel (fun a b => cmdCnt l b ≤ cmdCnt l a + k) w c f hf (Nat.le_add_right _ _)
  omega

theorem G_sinkEvent (l : Nat) (w : World) (s : Sink) (e : Ev) : G l (w.sinkEvent s e) = G l w := by
  cases s with
  | cmd c => exact G_modCmd_same l w c _ (fun _ => rfl) (fun _ => rfl)
  | core => exact G_of_cmds rfl

theorem G_sinkEffect (l : Nat) (w : World) (s : Sink) (e : Eff) : G l (w.sinkEffect s e) = G l w := by
  cases s with
  | cmd c => exact G_modCmd_same l w c _ (fun _ => rfl) (fun _ => rfl)
  | core => exact G_of_cmds rfl

theorem G_World_wake (l : Nat) (w : World) (k : Waker) : G l (w.wake k) = G l w := G_of_fr (fun c => fr_wake c w k) l

theorem G_wakeAll (l : Nat) (ks : List Waker) (w : World) : G l (w.wakeAll ks) = G l w := G_of_fr (fun c => fr_wakeAll c ks w) l

theorem G_dropSender (l : Nat) (w : World) (x : Nat) : G l (w.dropSender x) = G l w := G_of_fr (fun c => fr_dropSender c w x) l

theorem G_abortCmd (l : Nat) (w : World) (c : Nat) : G l (w.abortCmd c) = G l w := G_of_fr (fun c' => fr_abortCmd c' w c) l

theorem G_resolveReq (l : Nat) (r : Resolve) (v : Val) (w : World) : G l (resolveReq r v w).2.2 = G l w :=
  G_of_fr (fun c => fr_resolveReq c r v w) l

theorem G_dropReq (l : Nat) (r : Resolve) (w : World) : G l (dropReq r w).2 = G l w := G_of_fr (fun c => fr_dropReq c r w) l

structure GLe (w : World) (X : List Nat) (w' : World) (X' : List Nat) : Prop where
  len : w.leaves.length ≤ w'.leaves.length
  cnt : ∀ l, X'.count l + G l w' ≤ X.count l + G l w + fresh w w' l

theorem GLe.refl (w : World) (X : List Nat) : GLe w X w X := ⟨Nat.le_refl _, fun _ => Nat.le_add_right _ _⟩

theorem GLe.trans {w1 w2 w3 : World} {X1 X2 X3 : List Nat} (h12 : GLe w1 X1 w2 X2) (h23 : GLe w2 X2 w3 X3) :
    GLe w1 X1 w3 X3 := by
  refine ⟨Nat.le_trans h12.len h23.len, ?_⟩
  intro l
  have a := h12.cnt l
  have b := h23.cnt l
  have c := fresh_add w1 w2 w3 h12.len h23.len l
  omega

theorem GLe.frame {w w' : World} {X X' : List Nat} (h : GLe w X w' X') (Y Z : List Nat) :
    GLe w (Y ++ X ++ Z) w' (Y ++ X' ++ Z) := by
  refine ⟨h.len, ?_⟩
  intro l
  have := h.cnt l
  simp only [List.count_append]
  omega

theorem GLe.drop {w w' : World} {X X' X'' : List Nat} (h : GLe w X w' X') (hs : ∀ l, X''.count l ≤ X'.count l) :
    GLe w X w' X'' := by
  refine ⟨h.len, ?_⟩
  intro l
  have := h.cnt l
  have := hs l
  omega

theorem GLe.of_same {w w' : World} (X : List Nat) (hg : ∀ l, G l w' = G l w) (hl : w'.leaves.length = w.leaves.length) :
    GLe w X w' X := by
  refine ⟨by rw [hl]; exact Nat.le_refl _, ?_⟩
  intro l; rw [hg l]; exact Nat.le_add_right _ _

theorem GLe.same_drop {w w' : World} (X : List Nat) (hg : ∀ l, G l w' = G l w) (hl : w'.leaves.length = w.leaves.length) :
    GLe w X w' [] := (GLe.of_same X hg hl).drop (fun _ => by simp)

theorem GLe.of_le {w w' : World} (X : List Nat) (hg : ∀ l, G l w' ≤ G l w) (hl : w'.leaves.length = w.leaves.length) :
    GLe w X w' X := by
  refine ⟨by rw [hl]; exact Nat.le_refl _, ?_⟩
  intro l; have := hg l; omega

/-- from `w` to `w'` no leaf gains a reference and no leaf is made -/
structure Dec (w w' : World) : Prop where
  g : ∀ l, G l w' ≤ G l w
  len : w'.leaves.length = w.leaves.length

theorem Dec.refl (w : World) : Dec w w := ⟨fun _ => Nat.le_refl _, rfl⟩
theorem Dec.trans {w1 w2 w3 : World} (h12 : Dec w1 w2) (h23 : Dec w2 w3) : Dec w1 w3 :=
  ⟨fun l => Nat.le_trans (h23.g l) (h12.g l), h23.len.trans h12.len⟩

theorem Dec.of_eq {w w' : World} (hg : ∀ l, G l w' = G l w) (hl : w'.leaves.length = w.leaves.length) : Dec w w' :=
  ⟨fun l => by rw [hg l]; exact Nat.le_refl _, hl⟩

theorem dec_dropReceiver (w : World) (x : Nat) : Dec w (w.dropReceiver x) :=
  Dec.of_eq (fun _ => G_of_cmds rfl) (len_dropReceiver w x)

theorem dec_dropSender (w : World) (x : Nat) : Dec w (w.dropSender x) :=
  Dec.of_eq (fun l => G_dropSender l w x) (len_dropSender w x)

theorem dec_modMeta (w : World) (s : Nat) (f : Meta → Meta) : Dec w (w.modMeta s f) := Dec.of_eq (fun _ => G_of_cmds rfl) rfl

theorem dec_wakeAll (w : World) (ks : List Waker) : Dec w (w.wakeAll ks) :=
  Dec.of_eq (fun l => G_wakeAll l ks w) (fr_wakeAll 0 ks w).len

theorem foldl_dec {α : Type} (g : World → α → World) (hg : ∀ W a, Dec W (g W a)) (l : List α) (W : World) : Dec W (l.foldl g W) :=
  foldl_inv_mem (J := Dec W) l W (fun b a _ h => h.trans (hg b a)) (Dec.refl W)

theorem dec_dropPend (dc : Nat → World → World) (hdc : ∀ c w, Dec w (dc c w)) : (p : Pend) → (w : World) →
    Dec w (dropPend dc p w) :=
  fun p w => dropPend_inv (J := Dec w) (fun c W h => h.trans (hdc c W)) (fun W l h => h.trans (dec_dropReceiver W l)) p w
    (Dec.refl w)

theorem dec_modCmd_le (W : World) (c : Nat) (f : CmdSt → CmdSt) (hf : ∀ x l, cmdCnt l (f x) ≤ cmdCnt l x) :
    Dec W (W.modCmd c f) :=
  ⟨fun l => G_modCmd_le l W c f 0 (hf · l), rfl⟩

theorem dec_drop (w0 : World) : (∀ w c, Dec w0 w → Dec w0 (w.dropCmd c)) ∧ (∀ w b, Dec w0 w → Dec w0 (w.dropBlock b)) ∧
    (∀ w t, Dec w0 w → Dec w0 (w.dropTask t)) :=
  World.drop_inv (J := Dec w0) (fun w l h => h.trans (dec_dropReceiver w l))
    (fun w s h => h.trans (dec_modMeta w s _)) (fun w l h => h.trans (dec_dropSender w l))
    (fun _ _ h => h.trans (Dec.of_eq (fun _ => G_of_cmds rfl) rfl))
    (fun w c h => h.trans (dec_modCmd_le w c _ fun _ _ => Nat.zero_le _))

theorem dec_World_dropCmd (w : World) (c : Nat) : Dec w (w.dropCmd c) := (dec_drop w).1 w c (Dec.refl w)
theorem dec_World_dropBlock (w : World) (b : Block) : Dec w (w.dropBlock b) := (dec_drop w).2.1 w b (Dec.refl w)
theorem dec_World_dropTask (w : World) (t : Task) : Dec w (w.dropTask t) := (dec_drop w).2.2 w t (Dec.refl w)

theorem Dec.toGLe {w w' : World} (h : Dec w w') (X : List Nat) : GLe w X w' X := GLe.of_le X h.g h.len

end M.Rt
