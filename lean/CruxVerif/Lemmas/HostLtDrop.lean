/- Dropping blocks, tasks and commands stays below: it only reaches commands hosted (transitively) by what is dropped. -/
import CruxVerif.Lemmas.TasksFrame
import CruxVerif.Lemmas.SlabSum
namespace M.Rt

theorem TKp.toPT {New : Nat → Task → Prop} {p : Nat} {w w' : World} (h : TKp New w w')
    (hn : ∀ q t, New q t → q = p ∧ hostsLtB p t.fut = true) : PT p w w' :=
  ⟨fun q _ => h.tasks q, fun q t _ ht => (h.spawn q t ht).imp id (hn q t)⟩

theorem TKp.toRT {New : Nat → Task → Prop} {c : Nat} {w w' : World} (h : TKp New w w') (hn : ∀ q t, New q t → False) :
    RT c w w' :=
  ⟨fun q _ => h.tasks q, fun q t _ ht => (h.spawn q t ht).elim id (fun x => (hn q t x).elim)⟩

theorem HL.tk {New : Nat → Task → Prop} {w w' : World} (h : HL w) (f : TKp New w w')
    (hn : ∀ q t, New q t → hostsLtB q t.fut = true) : HL w' :=
  ⟨fun q t ht => h.tasks q t (by rw [← f.tasks q]; exact ht), fun q t ht => by
    rcases f.spawn q t ht with ht | ht
    · exact h.spawn q t ht
    · exact hn q t ht⟩

theorem HL.tk0 {w w' : World} (h : HL w) (f : TK0 w w') : HL w' := h.tk f (fun _ _ x => x.elim)

/-- what a poll of a task of command `p` may add to a spawn queue -/
abbrev NewP (p : Nat) : Nat → Task → Prop := fun q t => q = p ∧ hostsLtB p t.fut = true

theorem HL.step {p : Nat} {w w1 : World} (hw : HL w) (f1 : TKp (NewP p) w w1) : HL w1 :=
  hw.tk f1 (fun q t hn => by rw [hn.1]; exact hn.2)

theorem TKp.hl_pt {p : Nat} {w w' : World} (f : TKp (NewP p) w w') (hw : HL w) : HL w' ∧ PT p w w' :=
  ⟨hw.step f, f.toPT (fun _ _ hn => hn)⟩

theorem TKp.hl_rt {c : Nat} {w w' : World} (f : TK0 w w') (hw : HL w) : HL w' ∧ RT c w w' :=
  ⟨hw.tk0 f, f.toRT (fun _ _ x => x)⟩

theorem rt_modCmd (w : World) (c : Nat) (f : CmdSt → CmdSt) : RT c w (w.modCmd c f) :=
  ⟨fun q hq => by rw [World.cmd_modCmd_other w c q f (by omega)],
   fun q t hq ht => by rw [World.cmd_modCmd_other w c q f (by omega)] at ht; exact ht⟩

theorem hl_rt_modCmd {c : Nat} {w₀ w : World} (f : CmdSt → CmdSt) (hf : ∀ x, (f x).tasks = x.tasks)
    (hs : ∀ x, (f x).spawnQ = x.spawnQ) (k : HL w ∧ RT c w₀ w) : HL (w.modCmd c f) ∧ RT c w₀ (w.modCmd c f) :=
  RT.step k (tk_modCmd w c f hf hs).hl_rt

theorem HL.of_cmd {w w' : World} (h : HL w) (ht : ∀ q, ∀ t ∈ (w'.cmd q).tasks.values, t ∈ (w.cmd q).tasks.values)
    (hs : ∀ q, ∀ t ∈ (w'.cmd q).spawnQ, t ∈ (w.cmd q).spawnQ) : HL w' :=
  ⟨fun q t hm => h.tasks q t (ht q t hm), fun q t hm => h.spawn q t (hs q t hm)⟩

theorem HL.modCmd_gen {w : World} (h : HL w) (c : Nat) (g : CmdSt → CmdSt)
    (hgt : ∀ x, ∀ t ∈ (g x).tasks.values, t ∈ x.tasks.values ∨ hostsLtB c t.fut = true)
    (hgs : ∀ x, ∀ t ∈ (g x).spawnQ, t ∈ x.spawnQ ∨ hostsLtB c t.fut = true) : HL (w.modCmd c g) :=
  ⟨fun q t ht => (World.mem_cmd_modCmd (·.tasks.values) hgt ht).elim (h.tasks q t) fun ⟨e, hp⟩ => e ▸ hp,
   fun q t ht => (World.mem_cmd_modCmd (·.spawnQ) hgs ht).elim (h.spawn q t) fun ⟨e, hp⟩ => e ▸ hp⟩

def DropOk (dc : Nat → World → World) (p : Nat) : Prop := ∀ c w, c < p → HL w → HL (dc c w) ∧ RT c w (dc c w)

section
variable {dc : Nat → World → World} {p : Nat} {w₀ : World}

theorem DropOk.lt (hdc : DropOk dc p) (c : Nat) (w : World) (hc : c < p) (k : HL w ∧ PT p w₀ w) :
    HL (dc c w) ∧ PT p w₀ (dc c w) :=
  PT.step k fun hw => (hdc c w hc hw).imp_right (RT.toPT hc)

theorem hl_pt_dropReceiver (w : World) (l : Nat) (k : HL w ∧ PT p w₀ w) :
    HL (w.dropReceiver l) ∧ PT p w₀ (w.dropReceiver l) :=
  PT.step k (tk_dropReceiver w l).hl_pt

end

theorem dropBlock_hl (dc : Nat → World → World) (p : Nat) (hdc : DropOk dc p) (b : Block) (w : World)
    (h : hostsLtB p b = true) (hw : HL w) : HL (dropBlock dc b w) ∧ PT p w (dropBlock dc b w) :=
  dropBlock_lt hdc.lt hl_pt_dropReceiver b w h ⟨hw, PT.refl p w⟩

theorem dropPend_hl (dc : Nat → World → World) (p : Nat) (hdc : DropOk dc p) : (pd : Pend) → (w : World) →
    hostsLtP p pd = true → HL w → HL (dropPend dc pd w) ∧ PT p w (dropPend dc pd w) :=
  fun pd w h hw => dropPend_lt hdc.lt hl_pt_dropReceiver pd w h ⟨hw, PT.refl p w⟩

theorem dropTask_hl (dc : Nat → World → World) (p : Nat) (hdc : DropOk dc p) (t : Task) (w : World)
    (h : hostsLtB p t.fut = true) (hw : HL w) : HL (dropTask dc t w) ∧ PT p w (dropTask dc t w) :=
  PT.step ((tk_modMeta w t.serial _).hl_pt hw) (dropBlock_hl dc p hdc t.fut _ h)

theorem foldl_dropTask_hl (dc : Nat → World → World) (c : Nat) (hdc : DropOk dc c) (l : List Task)
    (hl : ∀ t ∈ l, hostsLtB c t.fut = true) {w₀ w : World} (k : HL w ∧ RT c w₀ w) :
    HL (l.foldl (fun w t => dropTask dc t w) w) ∧ RT c w₀ (l.foldl (fun w t => dropTask dc t w) w) :=
  foldl_inv_mem (J := fun W => HL W ∧ RT c w₀ W) l w
    (fun W t ht k => RT.step k fun hW => (dropTask_hl dc c hdc t W (hl t ht) hW).imp_right PT.toRT) k

theorem tk0_dropSender (w : World) (l : Nat) : TK0 w (w.dropSender l) :=
  World.dropSender_inv (J := TK0 w) (fun W k => k.trans (tk_modLeaf W l _)) (fun W k => k.trans (tk_modLeaf W l _))
    (fun W wk k => k.trans (tk_World_wake W wk)) w (.refl w)

theorem tk0_dropEff (w : World) (e : Eff) : TK0 w (dropEff w e) := by
  unfold dropEff
  split
  · exact tk0_dropSender w _
  · exact tk0_dropSender w _
  · exact TKp.refl w

/-- the tasks a dying command `c` drops host below `c` (by `HL`), so by induction on the nesting fuel everything they reach
    is below `c` too -/
theorem dropCmdAt_hl : ∀ (f c : Nat) (w : World), HL w → HL (dropCmdAt f c w) ∧ RT c w (dropCmdAt f c w)
  | 0, c, w, hw => (tk_anomaly w _).hl_rt hw
  | f + 1, c, w, hw => by
    have hdc : DropOk (dropCmdAt f) c := fun c' W _ hW => dropCmdAt_hl f c' W hW
    unfold dropCmdAt
    simp only
    split
    · exact ⟨hw, RT.refl c w⟩
    · refine foldl_dropTask_hl _ c hdc _ (hw.tasks c) (foldl_dropTask_hl _ c hdc _ (hw.spawn c) ?_)
      have k0 : HL (w.modCmd c fun c => { c with alive := false, effects := [], events := [], spawnQ := [], tasks := {}, ready := [] }) ∧
          RT c w (w.modCmd c fun c => { c with alive := false, effects := [], events := [], spawnQ := [], tasks := {}, ready := [] }) :=
        ⟨hw.modCmd_gen c _ (fun x t ht => by simp [Slab.values] at ht) (fun x t ht => by simp at ht), rt_modCmd w c _⟩
      split
      · exact k0
      · exact RT.step (foldl_inv_mem (J := fun W => HL W ∧ RT c w W) _ _ (fun W e _ k => RT.step k (tk0_dropEff W e).hl_rt) k0)
          (tk_anomaly _ _).hl_rt

theorem World_dropCmd_hl (w : World) (c : Nat) (hw : HL w) : HL (w.dropCmd c) ∧ RT c w (w.dropCmd c) :=
  dropCmdAt_hl _ c w hw

theorem dropOk_World (p : Nat) : DropOk (fun c w => w.dropCmd c) p := fun c w _ hw => World_dropCmd_hl w c hw

theorem World_dropBlock_hl (p : Nat) (w : World) (b : Block) (h : hostsLtB p b = true) (hw : HL w) :
    HL (w.dropBlock b) ∧ PT p w (w.dropBlock b) := dropBlock_hl _ p (dropOk_World p) b w h hw

theorem World_dropTask_hl (p : Nat) (w : World) (t : Task) (h : hostsLtB p t.fut = true) (hw : HL w) :
    HL (w.dropTask t) ∧ PT p w (w.dropTask t) := dropTask_hl _ p (dropOk_World p) t w h hw

end M.Rt
