/- `QS` through one poll of a host-free block (any sink), then through the command executor for a command whose tasks are
   host-free. -/
import CruxVerif.Lemmas.QSteps
import CruxVerif.Lemmas.PollFrame
import CruxVerif.Lemmas.HostLtExec
import CruxVerif.Lemmas.RtExec
namespace M.Rt

theorem meOf_cmd (c : Nat) : meOf (.cmd c) = some c := rfl
theorem meOf_core : meOf .core = none := rfl

theorem qs_ops (w0 : World) (wk : Waker) (sink : Sink) : PollOps wk sink (QS (meOf sink) w0) where
  event w e h := h.trans (sinkEvent_qs w sink e)
  effect w e h := h.trans (sinkEffect_qs w sink e)
  newLeaf w lg h := h.trans (QS.newLeaf w _ lg)
  spawn w c b hs _ h := by
    subst hs
    exact (h.trans (QS.newMeta w)).trans (QS.modCmd_me _ c _ (fun _ => rfl) (fun _ => rfl) (fun _ => rfl))
  legacy w b _ _ h := h.trans (QS.of_fields rfl rfl (fun _ he => he) (fun _ ht => List.mem_append_left _ ht))
  abortTask w s h := h.trans (QS.modMeta w s _ (fun _ _ => rfl))
  abortCmd w c h := h.trans (abortCmd_qs _ w c)
  dropReceiver w l h := h.trans (QS.dropReceiver w l)
  setWaker w l _ h := h.trans (QS.modLeaf w l _)
  setQueue w l q h := h.trans (QS.modLeaf w l _)
  join w s h := h.trans (QS.modMeta w s _ (fun _ hm => hm))
  wake w h := h.trans (World_wake_qs _ w wk)

theorem pollBlock_qs (pn) (f : Nat) (wk : Waker) (sink : Sink) (b : Block) (w : World) (r : PollRes) (w' : World)
    (h : pollBlock pn f wk sink b w = some (r, w')) (hf : hostFreeB b = true) : QS (meOf sink) w w' :=
  pollBlock_inv pn (qs_ops w wk sink) f b w r w' h hf (QS.refl _ w)

/-- every stored task of command `c` is host-free -/
structure HFc (c : Nat) (w : World) : Prop where
  t : ∀ t ∈ (w.cmd c).tasks.values, hostFreeB t.fut = true
  s : ∀ t ∈ (w.cmd c).spawnQ, hostFreeB t.fut = true

theorem HFc.tk {c : Nat} {w w' : World} (h : HFc c w) (f : TK w w') : HFc c w' :=
  ⟨fun t ht => h.t t (by rw [← f.tasks c]; exact ht), fun t ht => (f.spawn c t ht).elim (h.s t) id⟩

theorem HFc.tk0 {c : Nat} {w w' : World} (h : HFc c w) (f : TK0 w w') : HFc c w' := h.tk (f.imp (fun _ _ x => x.elim))

theorem HFc.modCmd {c : Nat} {w : World} (h : HFc c w) (g : CmdSt → CmdSt)
    (hgt : ∀ x, ∀ t ∈ (g x).tasks.values, t ∈ x.tasks.values ∨ hostFreeB t.fut = true)
    (hgs : ∀ x, ∀ t ∈ (g x).spawnQ, t ∈ x.spawnQ ∨ hostFreeB t.fut = true) : HFc c (w.modCmd c g) :=
  ⟨fun t ht => (World.mem_cmd_modCmd (·.tasks.values) hgt ht).elim (h.t t) (·.2),
   fun t ht => (World.mem_cmd_modCmd (·.spawnQ) hgs ht).elim (h.s t) (·.2)⟩

theorem HFc.of_other {me : Option Nat} {d : Nat} {w w' : World} (h : HFc d w) (q : QS me w w') (hd : some d ≠ me) : HFc d w' := by
  have o := q.other d hd
  exact ⟨by rw [o.1]; exact h.t, by rw [o.2.1]; exact h.s⟩

theorem HFc.of_qs {c d : Nat} {w w' : World} (h : HFc d w) (q : QS (some c) w w') (hd : c ≠ d) : HFc d w' :=
  h.of_other q (fun e => hd (Option.some.inj e).symm)

theorem HFc.of_qs_none {d : Nat} {w w' : World} (h : HFc d w) (q : QS none w w') : HFc d w' :=
  h.of_other q (fun e => by cases e)

/-- The executor's loops are followed with the predicate `fun w' => QS (some c) w w' ∧ HFc c w'`: the world reached is a
    step of `c` away from the start `w`, and `c`'s tasks are still host-free. This adds one more step. -/
theorem QS.step_hf {c : Nat} {w w1 w2 : World} (k : QS (some c) w w1 ∧ HFc c w1)
    (h : HFc c w1 → QS (some c) w1 w2 ∧ HFc c w2) : QS (some c) w w2 ∧ HFc c w2 :=
  ⟨k.1.trans (h k.2).1, (h k.2).2⟩

theorem modCmd_q (c : Nat) (w : World) (g : CmdSt → CmdSt) (ha : ∀ x, (g x).alive = x.alive)
    (hfl : ∀ x, (g x).abortFlag = x.abortFlag) (hwk : ∀ x, (g x).waker = x.waker)
    (hgt : ∀ x, ∀ t ∈ (g x).tasks.values, t ∈ x.tasks.values ∨ hostFreeB t.fut = true)
    (hgs : ∀ x, ∀ t ∈ (g x).spawnQ, t ∈ x.spawnQ ∨ hostFreeB t.fut = true) (hw : HFc c w) :
    QS (some c) w (w.modCmd c g) ∧ HFc c (w.modCmd c g) :=
  ⟨QS.modCmd_me w c g ha hfl hwk, hw.modCmd g hgt hgs⟩

theorem runTaskF_q (pn) (f : Nat) (c tid : Nat) (w : World) (st : TaskState) (w' : World)
    (h : runTaskF (pollBlock pn f) c tid w = some (st, w')) (hw : HFc c w) : QS (some c) w w' ∧ HFc c w' := by
  have k0 : QS (some c) w ({ w with nextSerial := w.nextSerial + 1 } : World) ∧
      HFc c ({ w with nextSerial := w.nextSerial + 1 } : World) := ⟨QS.fields _ _ rfl rfl rfl rfl, hw.tk0 (tk_of_cmds rfl)⟩
  have poll : ∀ t r w1, (w.cmd c).tasks.get? tid = some t →
      pollBlock pn f (.task c tid w.nextSerial) (.cmd c) t.fut { w with nextSerial := w.nextSerial + 1 } = some (r, w1) →
      hostFreeB t.fut = true ∧ QS (some c) w w1 ∧ HFc c w1 := fun t r w1 hg hpoll =>
    have htf : hostFreeB t.fut = true := hw.t t (Slab.mem_values_of_get _ _ _ hg)
    ⟨htf, QS.step_hf k0 fun h0 =>
      ⟨pollBlock_qs _ _ _ _ _ _ _ _ hpoll htf, h0.tk (pollBlock_tgood _ _ _ _ _ _ _ _ _ hpoll htf (fun _ _ _ x => x))⟩⟩
  refine runTaskF_ind (Q := fun _ w' => QS (some c) w w' ∧ HFc c w') (fun _ => ⟨QS.refl _ w, hw⟩)
    (fun _ _ _ => ⟨QS.refl _ w, hw⟩) (fun t _ w1 hg _ hp => (poll t _ w1 hg hp).2) (fun t b w1 hg _ hp => ?_) h
  obtain ⟨htf, k1⟩ := poll t _ w1 hg hp
  have hb : hostFreeB b = true := (pollBlock_lgood _ _ _ _ _ _ _ _ hp htf).2
  have k2 := QS.step_hf k1 (modCmd_q c w1 (fun x => { x with tasks := x.tasks.set tid { t with fut := b } })
    (fun _ => rfl) (fun _ => rfl) (fun _ => rfl)
    (fun x t' ht' => (Slab.mem_values_set _ _ _ _ ht').elim (fun e => Or.inr (by rw [e]; exact hb)) Or.inl) (fun x t' ht' => Or.inl ht'))
  have fin : QS (some c) w (parkTask c tid t w.nextSerial b w1) ∧ HFc c (parkTask c tid t w.nextSerial b w1) :=
    QS.step_hf k2 fun h2 => ⟨QS.fields _ _ rfl rfl rfl rfl, h2.tk0 (tk_of_cmds rfl)⟩
  exact ⟨fun _ _ => fin, fun _ => fin⟩

theorem dropTask_qs (me : Option Nat) (dc : Nat → World → World) (w : World) (t : Task) (ht : hostFreeB t.fut = true) :
    QS me w (dropTask dc t w) :=
  (QS.modMeta w t.serial (fun m => { m with taskAlive := false, joinWakers := [] }) (fun _ h => h)).trans
    (QS.of_NL (NL_dropBlock dc t.fut _ ht))

theorem dropTask_q (me : Option Nat) (c : Nat) (w : World) (t : Task) (ht : hostFreeB t.fut = true) (hw : HFc c w) :
    QS me w (w.dropTask t) ∧ HFc c (w.dropTask t) := by
  have h1 : HFc c (w.modMeta t.serial fun m => { m with taskAlive := false, joinWakers := [] }) := hw.tk0 (tk_of_cmds rfl)
  exact ⟨dropTask_qs me _ w t ht, h1.tk (tk_World_dropBlock _ t.fut ht)⟩

theorem finishTask_q (c tid : Nat) (w : World) (hw : HFc c w) : QS (some c) w (finishTask c tid w) ∧ HFc c (finishTask c tid w) := by
  cases hg : (w.cmd c).tasks.get? tid with
  | none => rw [finishTask_none hg]; exact ⟨QS.refl _ w, hw⟩
  | some t =>
    rw [finishTask_some hg]
    have htf := hw.t t (Slab.mem_values_of_get _ _ _ hg)
    have k1 := modCmd_q c w (fun x => { x with tasks := ((w.cmd c).tasks.remove tid).2 }) (fun _ => rfl) (fun _ => rfl)
      (fun _ => rfl) (fun x t' ht' => Or.inr (hw.t t' (Slab.mem_values_remove _ _ _ ht'))) (fun x t' ht' => Or.inl ht') hw
    generalize (w.modCmd c fun x => { x with tasks := ((w.cmd c).tasks.remove tid).2 }) = w1 at k1 ⊢
    have k2 := QS.step_hf k1 fun h1 => ⟨QS.modMeta w1 t.serial (fun m => { m with finished := true, joinWakers := [] }) (fun _ h => h),
      h1.tk0 (tk_of_cmds rfl)⟩
    have k3 := QS.step_hf k2 fun h2 => ⟨wakeAll_qs (some c) (w.getMeta t.serial).joinWakers _, h2.tk0 (tk0_wakeAll _ _)⟩
    exact QS.step_hf k3 (dropTask_q (some c) c _ t htf)

theorem spawnNewTasks_q (c : Nat) (w : World) (hw : HFc c w) : QS (some c) w (spawnNewTasks c w) ∧ HFc c (spawnNewTasks c w) := by
  refine spawnNewTasks_inv (J := fun W => QS (some c) w W ∧ HFc c W) ?_ (fun W t ht k => QS.step_hf k ?_)
  · exact modCmd_q c w _ (fun _ => rfl) (fun _ => rfl) (fun _ => rfl) (fun x t' ht' => Or.inl ht') (fun x t' ht' => by cases ht') hw
  · exact modCmd_q c W _ (fun _ => rfl) (fun _ => rfl) (fun _ => rfl)
      (fun x t' ht' => (Slab.mem_values_insert _ _ _ ht').elim (fun e => Or.inr (by rw [e]; exact hw.s t ht)) Or.inl) (fun x t' ht' => Or.inl ht')

theorem drainReady_q (pn) (pf : Nat) (c : Nat) (f : Nat) (w w' : World)
    (h : drainReady (runTaskF (pollBlock pn pf)) f c w = some w') (hw : HFc c w) : QS (some c) w w' ∧ HFc c w' := by
  refine drainReady_inv (J := fun w1 => QS (some c) w w1 ∧ HFc c w1) ?_ ?_ ?_ f w w' h ⟨QS.refl _ w, hw⟩
  · exact fun w1 rest k => QS.step_hf k
      (modCmd_q c w1 _ (fun _ => rfl) (fun _ => rfl) (fun _ => rfl) (fun _ _ h => Or.inl h) (fun _ _ h => Or.inl h))
  · exact fun w1 tid st w2 hrt k => QS.step_hf k (runTaskF_q pn pf c tid w1 st w2 hrt)
  · exact fun w1 tid k => QS.step_hf k (finishTask_q c tid w1)

theorem runUntilSettledF_q (pn) (pf : Nat) (c : Nat) (w w' : World)
    (h : runUntilSettledF (runTaskF (pollBlock pn pf)) c w = some w') (hw : HFc c w) : QS (some c) w w' ∧ HFc c w' := by
  refine runUntilSettledF_inv (J := fun w1 => QS (some c) w w1 ∧ HFc c w1) ?_ (settleLoop_inv ?_ ?_) w w' h ⟨QS.refl _ w, hw⟩
  · intro w1 _ k
    have k1 := foldl_inv_mem (J := fun W => QS (some c) w W ∧ HFc c W) (w1.cmd c).tasks.values w1
      (fun W t ht kW => QS.step_hf kW (dropTask_q (some c) c W t (k.2.t t ht))) k
    exact QS.step_hf k1 (modCmd_q c _ _ (fun _ => rfl) (fun _ => rfl) (fun _ => rfl)
      (fun x t' ht' => by simp [Slab.values] at ht') (fun x t' ht' => Or.inl ht'))
  · exact fun w1 k => QS.step_hf k (spawnNewTasks_q c w1)
  · exact fun f w1 w2 hd k => QS.step_hf k (drainReady_q pn pf c f w1 w2 hd)

end M.Rt
