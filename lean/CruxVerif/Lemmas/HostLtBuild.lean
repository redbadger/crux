/- Building commands establishes the index order of the hosting forest; the shell's operations keep it. -/
import CruxVerif.Lemmas.HostLtExec
namespace M.Rt

-- the user-written task bodies of a command host nothing (only the combinators create hosting tasks)
mutual
def cmdHF : Cmd → Bool
  | .task is => hostFreeIs is
  | .thenC a b => cmdHF a && cmdHF b
  | .andC a b => cmdHF a && cmdHF b
  | .all cs => cmdsHF cs
  | .mapEf _ c => cmdHF c
  | .mapEv _ c => cmdHF c
  | .abortable _ c => cmdHF c
  | _ => true
def cmdsHF : List Cmd → Bool
  | [] => true
  | c :: cs => cmdHF c && cmdsHF cs
end

theorem chainInstrs_free (tag : Nat) : ∀ (stages : List Stage) (x : Nat) (cur : Expr), hostFreeIs (chainInstrs tag x cur stages) = true
  | [], _, _ => rfl
  | .map _ :: ss, x, _ => chainInstrs_free tag ss x _
  | .thenReq _ :: ss, _, _ => chainInstrs_free tag ss _ _
  | .thenStream _ :: ss, _, _ => (Bool.and_true _).trans (chainInstrs_free tag ss _ _)

theorem chainStart_free (isStream : Bool) (n : Nat) (e : Expr) (stages : List Stage) (tag : Nat) :
    hostFreeIs (chainStart isStream n e stages tag) = true := by
  unfold chainStart
  split
  · exact (Bool.and_true _).trans (chainInstrs_free tag stages _ _)
  · exact chainInstrs_free tag stages _ _

/-- what building a command guarantees -/
structure Built (w : World) (cid : Nat) (w' : World) : Prop where
  hl : HL w'
  lo : w.cmds.length ≤ cid
  hi : cid < w'.cmds.length
  len : w.cmds.length ≤ w'.cmds.length

theorem hostsLtIs_host {p c : Nat} (h : c < p) (m : Mapper) {is : List Instr} (his : hostsLtIs p is = true) :
    hostsLtIs p (.host c m :: is) = true :=
  Bool.and_eq_true_iff.mpr ⟨decide_eq_true h, his⟩

theorem newCmd_built (env : Env) (is : List Instr) (w : World) (hw : HL w) (his : hostsLtIs w.cmds.length is = true) :
    Built w (newCmd env is w).1 (newCmd env is w).2 := by
  unfold newCmd
  simp only
  refine ⟨⟨fun q t ht => ?_, fun q t ht => ?_⟩, Nat.le_refl _, by simp [World.newMeta], by simp [World.newMeta]⟩
  all_goals
    rw [World.cmd_push] at ht
    split at ht
  · rename_i e
    simp [Slab.insert, Slab.empty, Slab.values] at ht
    rw [ht, e]; exact hostsLtB_mk rfl his
  · exact hw.tasks q t ht
  · simp at ht
  · exact hw.spawn q t ht

theorem spawnOn_hl (cid : Nat) (env : Env) (is : List Instr) (w : World) (hw : HL w) (his : hostsLtIs cid is = true) :
    HL (spawnOn cid env is w) ∧ (spawnOn cid env is w).cmds.length = w.cmds.length :=
  ⟨(hw.tk0 (tk_of_cmds rfl : TK0 w w.newMeta.2)).modCmd_gen cid _ (fun x t ht => Or.inl ht) fun x t ht =>
      (List.mem_append.mp ht).imp id fun h1 => by rw [List.mem_singleton.mp h1]; exact hostsLtB_mk rfl his,
    by simp [spawnOn, World.modCmd, World.newMeta, modifyNth_length]⟩

theorem newCmd_free_built (env : Env) (is : List Instr) (w : World) (hw : HL w) (his : hostFreeIs is = true) :
    Built w (newCmd env is w).1 (newCmd env is w).2 :=
  newCmd_built env is w hw (hostsLtIs_of_free _ is his)

theorem Built.trans_len {w w1 : World} {c : Nat} {w2 : World} (h : w.cmds.length ≤ w1.cmds.length) (b : Built w1 c w2) :
    w.cmds.length ≤ w2.cmds.length := Nat.le_trans h b.len

theorem Built.mono {w w1 : World} {c : Nat} {w2 : World} (h : w.cmds.length ≤ w1.cmds.length) (b : Built w1 c w2) :
    Built w c w2 :=
  ⟨b.hl, Nat.le_trans h b.lo, b.hi, Nat.le_trans h b.len⟩

theorem Built.host {w w1 : World} {cc : Nat} (b1 : Built w cc w1) (env : Env) (m : Mapper) :
    Built w (newCmd env [.host cc m] w1).1 (newCmd env [.host cc m] w1).2 :=
  (newCmd_built env _ _ b1.hl (hostsLtIs_host b1.hi m rfl)).mono b1.len

/-- `all`: every child is hosted by a task spawned on the new command, whose index is above all of them -/
theorem spawn_children_hl (c0 : Nat) (env : Env) (l : List Nat) (W : World) (hW : HL W) (hl : ∀ ci ∈ l, ci < c0) :
    HL (l.foldl (fun w ci => spawnOn c0 env [.host ci .id] w) W) ∧
    (l.foldl (fun w ci => spawnOn c0 env [.host ci .id] w) W).cmds.length = W.cmds.length :=
  foldl_inv_mem (J := fun W1 => HL W1 ∧ W1.cmds.length = W.cmds.length) l W (fun W1 ci hci k =>
    have s1 := spawnOn_hl c0 env [.host ci .id] W1 k.1 (hostsLtIs_host (hl ci hci) _ rfl)
    ⟨s1.1, s1.2.trans k.2⟩) ⟨hW, rfl⟩

/-- `and`: the (already built, lower) command `cb` is hosted by a task spawned on `ca`; abort handles are only re-ordered -/
theorem built_and (w w2 : World) (ca cb : Nat) (env : Env) (l : List (Nat × Nat)) (hl2 : HL w2) (hcb : cb < ca)
    (hlo : w.cmds.length ≤ ca) (hhi : ca < w2.cmds.length) (hlen : w.cmds.length ≤ w2.cmds.length) :
    Built w ca (spawnOn ca env [.host cb .id] ({ w2 with aborts := l } : World)) := by
  have s1 := spawnOn_hl ca env [.host cb .id] _ (hl2.tk0 (tk_aborts w2 l))
    (hostsLtIs_host hcb _ rfl)
  exact ⟨s1.1, hlo, by rw [s1.2]; exact hhi, by rw [s1.2]; exact hlen⟩

mutual
theorem instantiate_built (env : Env) : (c : Cmd) → (w : World) → cmdHF c = true → HL w →
    Built w (instantiate env c w).1 (instantiate env c w).2
  | .done, w, _, hw | .event _ _, w, _, hw | .notify _ _, w, _, hw | .req _ _ _, w, _, hw | .stream _ _ _, w, _, hw =>
    newCmd_free_built env _ w hw rfl
  | .chain s n e st tag, w, _, hw => newCmd_free_built env _ w hw (chainStart_free s n e st tag)
  | .task is, w, h, hw => newCmd_free_built env is w hw h
  | .thenC a b, w, h, hw =>
    have h : cmdHF a = true ∧ cmdHF b = true := Bool.and_eq_true_iff.mp h
    have b1 := instantiate_built env a w h.1 hw
    have b2 := instantiate_built env b _ h.2 b1.hl
    (newCmd_built env _ _ b2.hl (hostsLtIs_host (Nat.lt_of_lt_of_le b1.hi b2.len) _ (hostsLtIs_host b2.hi _ rfl))).mono
      (Nat.le_trans b1.len b2.len)
  | .andC a b, w, h, hw =>
    have h : cmdHF a = true ∧ cmdHF b = true := Bool.and_eq_true_iff.mp h
    have b1 := instantiate_built env b w h.2 hw
    have b2 := instantiate_built env a _ h.1 b1.hl
    built_and w _ _ _ env _ b2.hl (Nat.lt_of_lt_of_le b1.hi b2.lo) (Nat.le_trans b1.len b2.lo) b2.hi
      (Nat.le_trans b1.len b2.len)
  | .all cs, w, h, hw =>
    have b1 := instantiateAll_built env cs w h hw
    have b2 := newCmd_free_built env [] _ b1.1 rfl
    have s := spawn_children_hl (newCmd env [] (instantiateAll env cs w).2).1 env _ _ b2.hl
      fun ci hci => Nat.lt_of_lt_of_le (b1.2.1 ci hci) b2.lo
    ⟨s.1, Nat.le_trans b1.2.2 b2.lo, Nat.lt_of_lt_of_eq b2.hi s.2.symm,
      Nat.le_trans (Nat.le_trans b1.2.2 b2.len) (Nat.le_of_eq s.2.symm)⟩
  | .mapEf k c, w, h, hw => (instantiate_built env c w h hw).host env (.ef k)
  | .mapEv k c, w, h, hw => (instantiate_built env c w h hw).host env (.ev k)
  | .abortable _ c, w, h, hw =>
    have b1 := instantiate_built env c w h hw
    ⟨b1.hl.tk0 (tk_aborts _ _), b1.lo, b1.hi, b1.len⟩
theorem instantiateAll_built (env : Env) : (cs : List Cmd) → (w : World) → cmdsHF cs = true → HL w →
    HL (instantiateAll env cs w).2 ∧ (∀ ci ∈ (instantiateAll env cs w).1, ci < (instantiateAll env cs w).2.cmds.length) ∧
      w.cmds.length ≤ (instantiateAll env cs w).2.cmds.length
  | [], _, _, hw => ⟨hw, (fun _ h => nomatch h), Nat.le_refl _⟩
  | c :: cs, w, h, hw =>
    have h : cmdHF c = true ∧ cmdsHF cs = true := Bool.and_eq_true_iff.mp h
    have b1 := instantiate_built env c w h.1 hw
    have b2 := instantiateAll_built env cs _ h.2 b1.hl
    ⟨b2.1, fun ci hci => (List.mem_cons.mp hci).elim (fun e => e ▸ Nat.lt_of_lt_of_le b1.hi b2.2.2) (b2.2.1 ci),
      Nat.le_trans b1.len b2.2.2⟩
end

theorem tk_deliver {New : Nat → Task → Prop} (w : World) (l : Nat) (v : Val) : TKp New w (w.deliver l v) :=
  World.deliver_inv (J := TKp New w) (fun W k => k.trans (tk_modLeaf W l _)) (fun W wk k => k.trans (tk_World_wake W wk))
    w (.refl w)

theorem tk0_resolveReq (r : Resolve) (v : Val) (w : World) : TK0 w (resolveReq r v w).2.2 :=
  resolveReq_inv (J := TK0 w) (fun W l v _ k => k.trans (tk_deliver W l v)) (fun W l k => k.trans (tk0_dropSender W l))
    r v w (TKp.refl w)

theorem tk_doAbort {New : Nat → Task → Prop} (n : Nat) (w : World) : TKp New w (M.Hosts.doAbort n w) :=
  M.Hosts.doAbort_inv (J := TKp New w) (fun W c k => k.trans (tk_abortCmd W c)) n w (.refl w)

end M.Rt

namespace M.Hosts
open M.Rt

theorem ShellOps.of_tk0 {J : World → Prop} (h : ∀ w w', TK0 w w' → J w → J w') : ShellOps J :=
  ⟨fun w r v => h _ _ (tk0_resolveReq r v w), fun w l => h _ _ (tk0_dropSender w l), fun w n => h _ _ (tk_doAbort n w)⟩

theorem _root_.M.Rt.tk0_dropReq (r : Resolve) (w : World) : TK0 w (dropReq r w).2 :=
  (ShellOps.of_tk0 fun _ _ f k => k.trans f : ShellOps (TK0 w)).dropReq w r (TKp.refl w)

theorem HL_direct : DirectOps fun _ => HL where
  settle := fun cid w w' h hw => (runUntilSettled_hl cid w w' h hw).1
  effs := fun cid w hw => hw.tk0 (tk_modCmd w cid _ (fun _ => rfl) (fun _ => rfl))
  evs := fun cid w hw => hw.tk0 (tk_modCmd w cid _ (fun _ => rfl) (fun _ => rfl))
  shell := fun _ => ShellOps.of_tk0 fun _ _ f hw => hw.tk0 f

theorem HL_empty : HL ({} : World) := by
  refine ⟨?_, ?_⟩ <;> (intro q t ht; simp [World.cmd, Slab.values] at ht)

/-- for EVERY command built from host-free task bodies with any nesting of combinators, and EVERY history: in the world
    the direct host reaches, every stored task hosts only commands with an index below its own command's -/
theorem runDirect_hl (c : Cmd) (hc : cmdHF c = true) (canon : Bool) (acts : List Action) (os : List Obs) (d : Direct)
    (h : runDirect c canon acts = some (os, d)) : HL d.w :=
  (runDirect_inv HL_direct c canon (instantiate_built {} c {} hc HL_empty).hl acts os d h).2

end M.Hosts
