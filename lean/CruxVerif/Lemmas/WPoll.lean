/-
Three frames of one poll of a host-free block, as instances of `pollBlock_inv_refs` / `pollBlock_inv` (PollFrame): a
channel the block does not hold is left as it was; what is in a join-handle waker queue or a ready queue stays there;
and "woken means queued": during the poll of task `tid` of command `cid` with the fresh serial `s`, every waker with
serial `s` anywhere in the world is that poll's waker, so whenever `s` is flagged `woken` the task id has been pushed
onto the command's ready queue.
-/
import CruxVerif.Lemmas.PFrame
namespace M.Rt

def lfRes (l0 : Nat) : PollRes → Prop
  | .pending b' => l0 ∉ refsB b'
  | .ready _ => True

def LFGood (pn : Waker → Nat → World → Option (NextRes × World)) (l0 : Nat) (f : Nat) : Prop :=
  ∀ wk sink b w r w', pollBlock pn f wk sink b w = some (r, w') → hostFreeB b = true → l0 < w.leaves.length → l0 ∉ refsB b →
    w'.leaf l0 = w.leaf l0 ∧ w.leaves.length ≤ w'.leaves.length ∧ lfRes l0 r

theorem lf_ops (w0 : World) (l0 : Nat) (wk : Waker) (sink : Sink) :
    RefOps wk sink (· ≠ l0) fun w => w.leaf l0 = w0.leaf l0 ∧ l0 < w.leaves.length where
  event w e h := ⟨((World.sinkEvent_frame w sink e).2.2.2.2.2.2.2.2.2.2.1 l0).trans h.1, by rw [len_sinkEvent]; exact h.2⟩
  effect w e h := ⟨((World.sinkEffect_frame w sink e).2.2.2.2.2.2.2.2.2.2.1 l0).trans h.1, by rw [len_sinkEffect]; exact h.2⟩
  newLeaf w lg h := ⟨⟨(World.leaf_newLeaf_old w _ lg l0 h.2).trans h.1, by simp [World.newLeaf]; omega⟩, Nat.ne_of_gt h.2⟩
  spawn w c b _ _ h := h
  legacy w b _ _ h := h
  abortTask w s h := h
  abortCmd w c h := ⟨((World.abortCmd_frame w c).2.2.2.2.2.2.2.2 l0).trans h.1, by rw [len_abortCmd]; exact h.2⟩
  dropReceiver w l hl h := ⟨(leaf_modLeaf_other w l l0 _ hl).trans h.1, by rw [len_dropReceiver]; exact h.2⟩
  setWaker w l hl _ h := ⟨(leaf_modLeaf_other w l l0 _ hl).trans h.1, by rw [len_modLeaf]; exact h.2⟩
  setQueue w l q hl h := ⟨(leaf_modLeaf_other w l l0 _ hl).trans h.1, by rw [len_modLeaf]; exact h.2⟩
  join w s h := h
  wake w h := ⟨(leaf_wake w wk l0).trans h.1, by rw [len_wake]; exact h.2⟩

theorem pollBlock_lfgood (pn) (l0 : Nat) : ∀ f, LFGood pn l0 f := fun f wk sink b w r w' h hf hl hn =>
  have k := pollBlock_inv_refs pn (lf_ops w l0 wk sink) f b w r w' h hf (fun l hm e => hn (e ▸ hm)) ⟨rfl, hl⟩
  ⟨k.1.1, (pollBlock_linear pn f wk sink b w r w' h hf).len, by
    cases r with
    | pending b' => exact fun hm => k.2 l0 hm rfl
    | ready _ => trivial⟩

def JRGood (pn : Waker → Nat → World → Option (NextRes × World)) (s : Nat) (k : Waker) (c x : Nat) (f : Nat) : Prop :=
  ∀ wk sink b w r w', pollBlock pn f wk sink b w = some (r, w') → hostFreeB b = true →
    (JW s k w → JW s k w') ∧ (RD c x w → RD c x w')

theorem jw_ops (s : Nat) (k : Waker) (wk : Waker) (sink : Sink) : PollOps wk sink (JW s k) where
  event w e h := by cases sink <;> exact jw_of_metas rfl h
  effect w e h := by cases sink <;> exact jw_of_metas rfl h
  newLeaf w lg h := jw_of_metas rfl h
  spawn w c b _ _ h := jw_of_metas (w := w.newMeta.2) rfl (jw_newMeta h)
  legacy w b _ _ h := jw_of_metas rfl h
  abortTask w s' h := jw_modMeta s' _ (fun _ hk => hk) h
  abortCmd w c h := jw_abortCmd c h
  dropReceiver w l h := jw_of_metas rfl h
  setWaker w l _ h := jw_of_metas rfl h
  setQueue w l q h := jw_of_metas rfl h
  join w s' h := jw_modMeta s' _ (fun _ hk => List.mem_append_left _ hk) h
  wake w h := jw_of_metas (wake_metas _ wk w) h

theorem rd_ops (c x : Nat) (wk : Waker) (sink : Sink) : PollOps wk sink (RD c x) where
  event w e h := by
    cases sink with
    | cmd c' => exact rd_modCmd_keep c' _ (fun _ => rfl) h
    | core => exact rd_of_cmds rfl h
  effect w e h := by
    cases sink with
    | cmd c' => exact rd_modCmd_keep c' _ (fun _ => rfl) h
    | core => exact rd_of_cmds rfl h
  newLeaf w lg h := rd_of_cmds rfl h
  spawn w c' b _ _ h := rd_modCmd_keep c' _ (fun _ => rfl) (rd_of_cmds (w := w) rfl h)
  legacy w b _ _ h := rd_of_cmds rfl h
  abortTask w s h := rd_of_cmds rfl h
  abortCmd w c' h := rd_abortCmd c' h
  dropReceiver w l h := rd_of_cmds rfl h
  setWaker w l _ h := rd_of_cmds rfl h
  setQueue w l q h := rd_of_cmds rfl h
  join w s h := rd_of_cmds rfl h
  wake w h := rd_World_wake wk h

theorem pollBlock_jrgood (pn) (s : Nat) (k : Waker) (c x : Nat) : ∀ f, JRGood pn s k c x f :=
  fun f wk sink b w r w' h hf =>
    ⟨pollBlock_inv pn (jw_ops s k wk sink) f b w r w' h hf, pollBlock_inv pn (rd_ops c x wk sink) f b w r w' h hf⟩

def serOf : Waker → Option Nat
  | .task _ _ s => some s
  | .root _ => none

/-- waker `k` is the poll's own waker or has another serial -/
def okW (s : Nat) (wk0 k : Waker) : Prop := k = wk0 ∨ serOf k ≠ some s

/-- every waker in the world is the poll's own, `wk0`, or has another serial than `s` -/
structure UW (s : Nat) (wk0 : Waker) (w : World) : Prop where
  leaves : ∀ l k, (w.leaf l).waker = some k → okW s wk0 k
  joins : ∀ m k, k ∈ (w.getMeta m).joinWakers → okW s wk0 k
  cmds : ∀ c k, (w.cmd c).waker = some k → okW s wk0 k

/-- the state predicate carried through the poll -/
structure WP (cid tid s : Nat) (w : World) : Prop where
  u : UW s (.task cid tid s) w
  wk : s ∈ w.woken → RD cid tid w
  alive : (w.cmd cid).alive = true
  inr : cid < w.cmds.length

theorem WP.of_same {cid tid s : Nat} {w w' : World} (h : WP cid tid s w) (hl : w'.leaves = w.leaves) (hm : w'.metas = w.metas)
    (hc : w'.cmds = w.cmds) (hw : w'.woken = w.woken) : WP cid tid s w' := by
  have hcmd : ∀ c, w'.cmd c = w.cmd c := fun c => cmd_of_cmds hc c
  refine ⟨⟨fun l k hk => h.u.leaves l k (by rw [← pleaf_of_leaves hl]; exact hk),
    fun m k hk => h.u.joins m k (by rw [← getMeta_of_metas hm]; exact hk),
    fun c k hk => h.u.cmds c k (by rw [← hcmd]; exact hk)⟩, ?_, by rw [hcmd]; exact h.alive, by rw [hc]; exact h.inr⟩
  intro hs
  rw [hw] at hs
  exact rd_of_cmds hc (h.wk hs)

section
variable {cid tid s : Nat} {w : World}

theorem WP.modLeaf (h : WP cid tid s w) (l : Nat) (f : Leaf → Leaf)
    (hf : ∀ x, (f x).waker = x.waker ∨ (f x).waker = some (.task cid tid s)) : WP cid tid s (w.modLeaf l f) := by
  refine ⟨⟨leaves_modLeaf (Q := fun lf => ∀ k, lf.waker = some k → okW s (.task cid tid s) k) h.u.leaves l f ?_,
    h.u.joins, h.u.cmds⟩, h.wk, h.alive, h.inr⟩
  intro hq k hk
  rcases hf (w.leaf l) with e | e
  · exact hq k (e ▸ hk)
  · exact Or.inl (Option.some.inj (e ▸ hk).symm)

theorem wp_newLeaf (lg : Bool) (h : WP cid tid s w) : WP cid tid s (w.newLeaf (some (.task cid tid s)) lg).2 := by
  refine ⟨⟨?_, h.u.joins, h.u.cmds⟩, h.wk, h.alive, h.inr⟩
  intro l k hk
  by_cases hl : l < w.leaves.length
  · rw [World.leaf_newLeaf_old w _ lg l hl] at hk; exact h.u.leaves l k hk
  · simp only [World.leaf, World.newLeaf] at hk
    by_cases e : l = w.leaves.length
    · subst e; simp at hk; exact Or.inl hk.symm
    · rw [List.getElem?_eq_none (by simp; omega)] at hk; simp at hk

theorem wp_newMeta (h : WP cid tid s w) : WP cid tid s w.newMeta.2 := by
  refine ⟨⟨h.u.leaves, ?_, h.u.cmds⟩, h.wk, h.alive, h.inr⟩
  intro m k hk
  refine h.u.joins m k ?_
  rw [World.getMeta_newMeta] at hk
  exact hk

theorem WP.modMeta (h : WP cid tid s w) (m0 : Nat) (f : Meta → Meta)
    (hf : ∀ x k, k ∈ (f x).joinWakers → k ∈ x.joinWakers ∨ k = .task cid tid s) : WP cid tid s (w.modMeta m0 f) := by
  refine ⟨⟨h.u.leaves, ?_, h.u.cmds⟩, h.wk, h.alive, h.inr⟩
  intro m k hk
  rw [World.getMeta_modMeta] at hk
  split at hk
  · exact (hf _ k hk).elim (h.u.joins m k) Or.inl
  · exact h.u.joins m k hk

theorem wp_abortTask (m0 : Nat) (h : WP cid tid s w) : WP cid tid s (w.modMeta m0 fun m => { m with aborted := true }) :=
  h.modMeta m0 _ (fun _ _ hk => Or.inl hk)

theorem WP.modCmd (h : WP cid tid s w) (c : Nat) (f : CmdSt → CmdSt) (hw : ∀ x, (f x).waker = x.waker ∨ (f x).waker = none)
    (hr : ∀ x y, y ∈ x.ready → y ∈ (f x).ready) (ha : ∀ x, (f x).alive = x.alive) : WP cid tid s (w.modCmd c f) := by
  refine ⟨⟨h.u.leaves, h.u.joins, ?_⟩, ?_, ?_, by simp only [World.modCmd, modifyNth_length]; exact h.inr⟩
  · intro d k hk
    rcases World.cmd_modCmd_cases w c f d with e | e <;> rw [e] at hk
    · exact h.u.cmds d k hk
    · rcases hw (w.cmd d) with h1 | h1 <;> rw [h1] at hk
      · exact h.u.cmds d k hk
      · cases hk
  · intro hs
    have := h.wk hs
    unfold RD at *
    rcases World.cmd_modCmd_cases w c f cid with e | e <;> rw [e]
    · exact this
    · exact hr _ tid this
  · rw [World.cmd_modCmd_keep (·.alive) ha]; exact h.alive

theorem WP.modCmd_keep (h : WP cid tid s w) (c : Nat) (f : CmdSt → CmdSt) (hw : ∀ x, (f x).waker = x.waker)
    (hr : ∀ x, (f x).ready = x.ready) (ha : ∀ x, (f x).alive = x.alive) : WP cid tid s (w.modCmd c f) :=
  h.modCmd c f (fun x => Or.inl (hw x)) (fun x y hy => by rw [hr]; exact hy) ha
end

theorem wp_wake (cid tid s : Nat) : ∀ (f : Nat) (k : Waker) (w : World), WP cid tid s w → okW s (.task cid tid s) k →
    WP cid tid s (wake f k w) := by
  intro f
  induction f with
  | zero =>
    intro k w h _
    cases k <;> exact h.of_same rfl rfl rfl rfl
  | succ f ih =>
    intro k w h hk
    cases k with
    | root e => exact h.of_same rfl rfl rfl rfl
    | task c t s' =>
      simp only [wake]
      have h1 : WP cid tid s (if (w.cmd c).alive = true then w.modCmd c fun y => { y with ready := y.ready ++ [t] } else w) := by
        split
        · exact h.modCmd c _ (fun _ => Or.inl rfl) (fun _ _ hy => List.mem_append_left _ hy) (fun _ => rfl)
        · exact h
      generalize hw1 : (if (w.cmd c).alive = true then w.modCmd c fun y => { y with ready := y.ready ++ [t] } else w) = w1 at h1
      have hrd : s' = s → RD cid tid w1 := by
        intro es
        subst es
        have : Waker.task c t s' = Waker.task cid tid s' := by
          rcases hk with e | e
          · exact e
          · exact absurd rfl e
        cases this
        unfold RD
        subst hw1
        rw [if_pos h.alive, cmd_modCmd_lt h.inr]
        simp only [List.mem_append, List.mem_singleton, or_true]
      have h2 : WP cid tid s ({ w1 with woken := s' :: w1.woken } : World) := by
        refine ⟨⟨h1.u.leaves, h1.u.joins, h1.u.cmds⟩, ?_, h1.alive, h1.inr⟩
        intro hs
        simp only [List.mem_cons] at hs
        rcases hs with hs | hs
        · exact rd_of_cmds rfl (hrd hs.symm)
        · exact rd_of_cmds rfl (h1.wk hs)
      have hwk : (w.cmd c).waker = (w1.cmd c).waker := by
        subst hw1
        split
        · refine Eq.symm (cmd_modCmd_keep (·.waker) w c _ ?_); intro _; rfl
        · rfl
      split
      · exact h2
      · rename_i pw hpw
        refine ih pw _ ?_ (h2.u.cmds c pw (by show (w1.cmd c).waker = some pw; rw [← hwk]; exact hpw))
        exact h2.modCmd c _ (fun _ => Or.inr rfl) (fun _ _ hy => hy) (fun _ => rfl)

theorem wp_abortCmd {cid tid s : Nat} {w : World} (c : Nat) (h : WP cid tid s w) : WP cid tid s (w.abortCmd c) := by
  unfold World.abortCmd
  simp only
  have h1 := wp_abortTask (w.cmd c).abortFlag h
  split
  · exact h1
  · rename_i pw hpw
    refine wp_wake cid tid s _ pw _ (h1.modCmd c _ (fun _ => Or.inr rfl) (fun _ _ hy => hy) (fun _ => rfl)) (h.u.cmds c pw hpw)

theorem wp_ops (cid tid s : Nat) (sink : Sink) : PollOps (.task cid tid s) sink (WP cid tid s) where
  event w e h := by
    cases sink with
    | cmd c => exact h.modCmd_keep c _ (fun _ => rfl) (fun _ => rfl) (fun _ => rfl)
    | core => exact h.of_same rfl rfl rfl rfl
  effect w e h := by
    cases sink with
    | cmd c => exact h.modCmd_keep c _ (fun _ => rfl) (fun _ => rfl) (fun _ => rfl)
    | core => exact h.of_same rfl rfl rfl rfl
  newLeaf w lg h := wp_newLeaf lg h
  spawn w c b _ _ h := (wp_newMeta h).modCmd_keep c _ (fun _ => rfl) (fun _ => rfl) (fun _ => rfl)
  legacy w b _ _ h := h.of_same rfl rfl rfl rfl
  abortTask w m0 h := wp_abortTask m0 h
  abortCmd w c h := wp_abortCmd c h
  dropReceiver w l h := h.modLeaf l _ (fun _ => Or.inl rfl)
  setWaker w l _ h := h.modLeaf l _ (fun _ => Or.inr rfl)
  setQueue w l q h := h.modLeaf l _ (fun _ => Or.inl rfl)
  join w m0 h := h.modMeta m0 _ (fun x k hk => by simpa [addJoinWaker] using hk)
  wake w h := wp_wake cid tid s _ _ w h (Or.inl rfl)

def WPGood (pn : Waker → Nat → World → Option (NextRes × World)) (cid tid s : Nat) (f : Nat) : Prop :=
  ∀ sink b w r w', pollBlock pn f (.task cid tid s) sink b w = some (r, w') → hostFreeB b = true →
    WP cid tid s w → WP cid tid s w'

theorem pollBlock_wpgood (pn) (cid tid s : Nat) : ∀ f, WPGood pn cid tid s f :=
  fun f sink => pollBlock_inv pn (wp_ops cid tid s sink) f

end M.Rt
