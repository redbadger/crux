/-
Parking across polls: a task parked at live wake sources stays parked while OTHER tasks are polled (their blocks reference
other channels), and the flag `woken` of a poll's serial implies that the task id is on the ready queue.
-/
import CruxVerif.Lemmas.WPoll
import CruxVerif.Lemmas.FreshDefs
namespace M.Rt

-- parked at LIVE registrations only: like `ParkedB`, but a pending self-wake does not count
mutual
def LPB (wk : Waker) (w : World) : Block → Prop
  | .mk _ cur _ => LPP wk w cur
def LPP (wk : Waker) (w : World) : Pend → Prop
  | .idle => False
  | .req _ l => l < w.leaves.length ∧ (w.leaf l).waker = some wk
  | .reqDead => True
  | .streamWait _ l _ _ _ => l < w.leaves.length ∧ (w.leaf l).waker = some wk
  | .streamBody _ _ _ _ _ inner => LPB wk w inner
  | .await s => wk ∈ (w.getMeta s).joinWakers
  | .join a b ad bd => (ad = false → LPB wk w a) ∧ (bd = false → LPB wk w b)
  | .select a b => LPB wk w a ∧ LPB wk w b
  | .selfwake _ => False
  | .host _ _ => True
end

theorem LPB_of_parked (wk : Waker) (w : World) (hnw : ¬ wokenBy wk w) : ∀ (b : Block), ParkedB wk w b → LPB wk w b := by
  refine Block.rec (motive_1 := fun b => ParkedB wk w b → LPB wk w b) (motive_2 := fun p => ParkedP wk w p → LPP wk w p)
    ?mk ?idle ?req ?reqDead ?streamWait ?streamBody ?await ?join ?select ?selfwake ?host
  case mk => exact fun env cur rest ih hp => by simp only [ParkedB] at hp; simp only [LPB]; exact ih hp
  case idle => exact fun hp => by simp [ParkedP] at hp
  case reqDead => exact fun _ => by simp [LPP]
  case await => exact fun s hp => by simpa [ParkedP, LPP] using hp
  case selfwake => exact fun k hp => by simp only [ParkedP] at hp; exact absurd hp hnw
  case req => exact fun x l hp => by simpa [ParkedP, LPP] using hp
  case streamWait => exact fun x l c lim body hp => by simpa [ParkedP, LPP] using hp
  case streamBody => exact fun x l c lim body inner ih hp => by simp only [ParkedP] at hp; simp only [LPP]; exact ih hp
  case join =>
    intro a b ad bd iha ihb hp
    simp only [ParkedP] at hp
    simp only [LPP]
    exact ⟨fun e => iha (hp.1 e), fun e => ihb (hp.2 e)⟩
  case select =>
    intro a b iha ihb hp
    simp only [ParkedP] at hp
    simp only [LPP]
    exact ⟨iha hp.1, ihb hp.2⟩
  case host => exact fun c m _ => by simp [LPP]

theorem LPB.frame (wk : Waker) (w w' : World) (hlen : w.leaves.length ≤ w'.leaves.length)
    (hj : ∀ s, wk ∈ (w.getMeta s).joinWakers → wk ∈ (w'.getMeta s).joinWakers) :
    ∀ (b : Block), (∀ l ∈ refsB b, (w'.leaf l).waker = (w.leaf l).waker) → LPB wk w b → LPB wk w' b := by
  refine Block.rec
    (motive_1 := fun b => (∀ l ∈ refsB b, (w'.leaf l).waker = (w.leaf l).waker) → LPB wk w b → LPB wk w' b)
    (motive_2 := fun p => (∀ l ∈ refsP p, (w'.leaf l).waker = (w.leaf l).waker) → LPP wk w p → LPP wk w' p)
    ?mk ?idle ?req ?reqDead ?streamWait ?streamBody ?await ?join ?select ?selfwake ?host
  case mk => exact fun env cur rest ih hl hp => by simp only [LPB] at hp ⊢; exact ih (by simpa [refsB] using hl) hp
  case idle => exact fun _ hp => by simp [LPP] at hp
  case reqDead => exact fun _ _ => by simp [LPP]
  case await => exact fun s _ hp => by simp only [LPP] at hp ⊢; exact hj s hp
  case selfwake => exact fun k _ hp => by simp [LPP] at hp
  case req =>
    intro x l hl hp
    simp only [LPP] at hp ⊢
    exact ⟨Nat.lt_of_lt_of_le hp.1 hlen, (hl l (by simp [refsP])).trans hp.2⟩
  case streamWait =>
    intro x l c lim body hl hp
    simp only [LPP] at hp ⊢
    exact ⟨Nat.lt_of_lt_of_le hp.1 hlen, (hl l (by simp [refsP])).trans hp.2⟩
  case streamBody =>
    intro x l c lim body inner ih hl hp
    simp only [LPP] at hp ⊢
    exact ih (fun l' hl' => hl l' (by simp [refsP, hl'])) hp
  case join =>
    intro a b ad bd iha ihb hl hp
    simp only [LPP] at hp ⊢
    exact ⟨fun e => iha (fun l' hl' => hl l' (by simp [refsP, e, hl'])) (hp.1 e),
      fun e => ihb (fun l' hl' => hl l' (by simp [refsP, e, hl'])) (hp.2 e)⟩
  case select =>
    intro a b iha ihb hl hp
    simp only [LPP] at hp ⊢
    exact ⟨iha (fun l' hl' => hl l' (by simp [refsP, hl'])) hp.1, ihb (fun l' hl' => hl l' (by simp [refsP, hl'])) hp.2⟩
  case host => exact fun c m _ _ => by simp [LPP]

theorem refsB_lt (n nm : Nat) : ∀ (b : Block), inRangeB n nm b = true → ∀ l ∈ refsB b, l < n := by
  refine Block.rec (motive_1 := fun b => inRangeB n nm b = true → ∀ l ∈ refsB b, l < n)
    (motive_2 := fun p => inRangeP n nm p = true → ∀ l ∈ refsP p, l < n)
    ?mk ?idle ?req ?reqDead ?streamWait ?streamBody ?await ?join ?select ?selfwake ?host
  case mk =>
    intro env cur rest ih hr l hl
    simp only [inRangeB, Bool.and_eq_true] at hr
    exact ih hr.2 l (by simpa [refsB] using hl)
  case idle => exact fun _ l hl => by simp [refsP] at hl
  case reqDead => exact fun _ l hl => by simp [refsP] at hl
  case await => exact fun s _ l hl => by simp [refsP] at hl
  case selfwake => exact fun k _ l hl => by simp [refsP] at hl
  case host => exact fun c m _ l hl => by simp [refsP] at hl
  case req => exact fun x l' hr l hl => by simp only [refsP, List.mem_singleton] at hl; subst hl; simpa [inRangeP] using hr
  case streamWait =>
    exact fun x l' c lim body hr l hl => by simp only [refsP, List.mem_singleton] at hl; subst hl; simpa [inRangeP] using hr
  case streamBody =>
    intro x l' c lim body inner ih hr l hl
    simp only [refsP, List.mem_cons] at hl
    simp only [inRangeP, Bool.and_eq_true, decide_eq_true_eq] at hr
    rcases hl with rfl | hl
    · exact hr.1
    · exact ih hr.2 l hl
  case join =>
    intro a b ad bd iha ihb hr l hl
    simp only [refsP, List.mem_append] at hl
    simp only [inRangeP, Bool.and_eq_true] at hr
    rcases hl with hl | hl
    · split at hl
      · cases hl
      · exact iha hr.1 l hl
    · split at hl
      · cases hl
      · exact ihb hr.2 l hl
  case select =>
    intro a b iha ihb hr l hl
    simp only [refsP, List.mem_append] at hl
    simp only [inRangeP, Bool.and_eq_true] at hr
    rcases hl with hl | hl
    · exact iha hr.1 l hl
    · exact ihb hr.2 l hl

/-- **A poll does not disturb the parking of other tasks.** One poll of a host-free block `b0` (any waker, sink, fuel,
    world): a block `b1` that references none of `b0`'s channels, is in range and is live-parked for waker `wk1` is still
    live-parked for `wk1` afterwards. -/
theorem poll_keeps_others_parked (pn) (f : Nat) (wk0 : Waker) (sink : Sink) (b0 : Block) (w : World) (r : PollRes) (w' : World)
    (h : pollBlock pn f wk0 sink b0 w = some (r, w')) (hf : hostFreeB b0 = true)
    (wk1 : Waker) (b1 : Block) (hr1 : inRangeB w.leaves.length w.metas.length b1 = true)
    (hdis : ∀ l ∈ refsB b1, l ∉ refsB b0) (hp : LPB wk1 w b1) : LPB wk1 w' b1 := by
  have hlt := refsB_lt _ _ b1 hr1
  refine LPB.frame wk1 w w' (pollBlock_linear pn f wk0 sink b0 w r w' h hf).len ?_ b1 ?_ hp
  · intro s hs
    exact (pollBlock_jrgood pn s wk1 0 0 f wk0 sink b0 w r w' h hf).1 hs
  · intro l hl
    exact congrArg (·.waker) (pollBlock_lfgood pn l f wk0 sink b0 w r w' h hf (hlt l hl) (hdis l hl)).1

theorem wkB_ok {n : Nat} {k : Waker} (wk0 : Waker) (h : wkB n k) : okW n wk0 k := by
  cases k with
  | root e => exact Or.inr (by simp [serOf])
  | task c t s => exact Or.inr (by simp only [serOf, ne_eq, Option.some.injEq]; simp only [wkB] at h; omega)

/-- in a fresh world nothing carries the next serial: the poll starts in `WP` -/
theorem WP_init (cid tid : Nat) (w : World) (hs : SOk w) (hal : (w.cmd cid).alive = true) (hin : cid < w.cmds.length) :
    WP cid tid w.nextSerial ({ w with nextSerial := w.nextSerial + 1 } : World) := by
  refine ⟨⟨?_, ?_, ?_⟩, ?_, hal, hin⟩
  · intro l k hk
    have := hs.leaf_waker l
    show okW _ _ k
    have e : (({ w with nextSerial := w.nextSerial + 1 } : World).leaf l) = w.leaf l := rfl
    rw [e] at hk
    rw [hk] at this
    exact wkB_ok _ this
  · intro m k hk
    have e : (({ w with nextSerial := w.nextSerial + 1 } : World).getMeta m) = w.getMeta m := rfl
    rw [e] at hk
    simp only [World.getMeta] at hk
    cases hm : w.metas[m]? with
    | none => simp [hm] at hk
    | some x =>
      simp only [hm, Option.getD_some] at hk
      exact wkB_ok _ (hs.metas x (List.mem_of_getElem? hm) k hk)
  · intro c k hk
    have := hs.cmd_waker c
    have e : (({ w with nextSerial := w.nextSerial + 1 } : World).cmd c) = w.cmd c := rfl
    rw [e] at hk
    rw [hk] at this
    exact wkB_ok _ this
  · intro hm
    have := hs.woken _ hm
    omega

/-- **Woken means queued.** In a fresh world, one poll of a host-free task `tid` of the live command `cid` with the waker
    `run_task` hands out: if the poll's serial is flagged `woken` afterwards, the task id is on the command's ready queue —
    whoever woke it (a self-wake, a sibling finishing, an abort that walked the chain). So a task that `run_task` keeps
    as `Suspended` because it was woken during its own poll WILL be polled again. -/
theorem woken_means_queued (pn) (f : Nat) (cid tid : Nat) (w : World) (b : Block) (r : PollRes) (w1 : World)
    (h : pollBlock pn f (.task cid tid w.nextSerial) (.cmd cid) b { w with nextSerial := w.nextSerial + 1 } = some (r, w1))
    (hf : hostFreeB b = true) (hs : SOk w) (hal : (w.cmd cid).alive = true) (hin : cid < w.cmds.length)
    (hw : w.nextSerial ∈ w1.woken) : tid ∈ (w1.cmd cid).ready :=
  (pollBlock_wpgood pn cid tid w.nextSerial f (.cmd cid) b _ r w1 h hf (WP_init cid tid w hs hal hin)).wk hw

end M.Rt
