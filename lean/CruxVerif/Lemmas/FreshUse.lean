/- What freshness buys: the serial `run_task` is about to hand out is held nowhere and flagged nowhere. -/
import CruxVerif.Lemmas.FreshCore
namespace M.Rt

theorem isSerial_of_below (n : Nat) (k : Option Waker) (h : owkB n k) : isSerial n k = false := by
  cases k with
  | none => rfl
  | some k =>
    cases k with
    | root _ => rfl
    | task c t s =>
      simp only [isSerial, beq_eq_false_iff_ne, ne_eq]
      have : s < n := h
      omega

theorem filter_length_zero {α : Type} (p : α → Bool) (l : List α) (h : ∀ a ∈ l, p a = false) : (l.filter p).length = 0 := by
  rw [List.length_eq_zero_iff, List.filter_eq_nil_iff]
  intro a ha
  rw [h a ha]; simp

theorem sum_map_zero {α : Type} (g : α → Nat) : ∀ (l : List α), (∀ a ∈ l, g a = 0) → (l.map g).sum = 0
  | [], _ => rfl
  | a :: l, h => by
    simp only [List.map_cons, List.sum_cons]
    rw [h a (by simp), sum_map_zero g l (fun b hb => h b (by simp [hb]))]

theorem SOk.next_unheld {w : World} (h : SOk w) : w.holders w.nextSerial = 0 ∧ w.woken.contains w.nextSerial = false := by
  constructor
  · unfold World.holders
    rw [filter_length_zero _ _ (fun lf hlf => isSerial_of_below _ _ (h.leaves lf hlf)),
        filter_length_zero _ _ (fun c hc => isSerial_of_below _ _ (h.cmds c hc)),
        sum_map_zero _ _ (fun m hm => filter_length_zero _ _ (fun k hk => isSerial_of_below _ (some k) (h.metas m hm k hk)))]
  · cases hc : w.woken.contains w.nextSerial with
    | false => rfl
    | true =>
      have := h.woken _ (List.contains_iff_mem.mp hc)
      omega

end M.Rt
