/- Quiescence at the return of a Core call, flat apps: the scheduling invariant through the executor's loops, `update` and the
   event loop. -/
import CruxVerif.Lemmas.QCore
import CruxVerif.Lemmas.RtCore
namespace M.Rt

theorem QI.popSpawn {k : Core} (hk : QI k none) (t : ExecTask) (rest : List ExecTask) (hsp : k.w.execSpawn = t :: rest) :
    QI { k with w := { k.w with execSpawn := rest }, execTasks := (k.execTasks.insert t).2 } (some (k.execTasks.insert t).1) := by
  have hself := Slab.get_insert_self k.execTasks t hk.wf
  have hin : ∀ x, x ∈ rest → x ∈ k.w.execSpawn := fun x hx => by rw [hsp]; exact List.mem_cons_of_mem _ hx
  refine ⟨Slab.wf_insert _ _ hk.wf, fun c => ⟨(hk.hf c).t, (hk.hf c).s⟩, ?_, fun x hx => hk.sh x (hin x hx), ?_, fun x hx => hk.spawnIn x (hin _ hx), ?_, hk.flat⟩
  · intro x hx
    exact (Slab.mem_values_insert _ _ _ hx).elim (fun e => by rw [e]; exact hk.sh t (by rw [hsp]; exact List.mem_cons_self))
      (hk.th x)
  · intro e x hx
    show x < k.w.cmds.length
    unfold hostedBy at hx
    by_cases ee : e = (k.execTasks.insert t).1
    · rw [ee, hself] at hx
      cases hx
      exact hk.spawnIn x (by rw [hsp]; exact List.mem_cons_self)
    · rw [Slab.get_insert_other _ _ _ ee] at hx
      exact hk.host e x hx
  · intro c hc hal
    by_cases hcs : t = .cmd c
    · exact Or.inr ⟨_, rfl, by unfold hostedBy; rw [hself, hcs]⟩
    · refine Or.inl ((hk.allQ c hc hal).transport rfl rfl ?_ (fun e h => h.insert t hk.wf))
      rintro (⟨e, he, hr'⟩ | h')
      · exact Or.inl ⟨e, he.insert t hk.wf, hr'⟩
      · rw [hsp] at h'
        exact Or.inr ((List.mem_cons.mp h').resolve_left (fun e => hcs e.symm))

theorem QI.popReady {k : Core} (hk : QI k none) (etid : Nat) (rest : List Nat) (hrd : k.w.execReady = etid :: rest) :
    QI { k with w := { k.w with execReady := rest } } (some etid) := by
  refine ⟨hk.wf, fun c => ⟨(hk.hf c).t, (hk.hf c).s⟩, hk.th, hk.sh, hk.host, hk.spawnIn, fun c hc hal => ?_, hk.flat⟩
  by_cases hh : hostedBy k.execTasks c etid
  · exact Or.inr ⟨etid, rfl, hh⟩
  · refine Or.inl ((hk.allQ c hc hal).transport rfl rfl ?_ (fun _ h => h))
    rintro (⟨e, he, hr'⟩ | h')
    · rw [hrd] at hr'
      rcases List.mem_cons.mp hr' with rfl | hr'
      · exact absurd he hh
      · exact Or.inl ⟨e, he, hr'⟩
    · exact Or.inr h'

theorem runAll_q : ∀ (f : Nat) (k k' : Core), runAll f k = some k' → QI k none → QI k' none :=
  runAll_inv
    (execDrainSpawn_inv fun _ t rest r k' hk hs hr => execRunTask_q _ _ r k' hr (hk.popSpawn t rest hs))
    (execDrainReady_inv fun _ etid rest r k' hk hs hr => execRunTask_q _ _ r k' hr (hk.popReady etid rest hs))

/-- what building a flat command does to the parts of the world the scheduling invariant reads -/
structure NewFlat (env : Env) (w : World) (cid : Nat) (w' : World) : Prop where
  cid : cid = w.cmds.length
  cmds : ∃ is, hostFreeIs is = true ∧ w'.cmds = w.cmds ++ [freshCmd env w.metas.length is]
  metas : w'.metas = w.metas ++ [({} : Meta)]
  ready : w'.execReady = w.execReady
  spawn : w'.execSpawn = w.execSpawn

theorem newCmd_flat (env : Env) (is : List Instr) (w : World) (h : hostFreeIs is = true) :
    NewFlat env w (newCmd env is w).1 (newCmd env is w).2 :=
  ⟨rfl, ⟨is, h, rfl⟩, rfl, rfl, rfl⟩

theorem instantiate_flat (env : Env) : (c : Cmd) → (w : World) → flatCmd c = true →
    NewFlat env w (instantiate env c w).1 (instantiate env c w).2
  | .done, w, _ => by simp only [instantiate]; exact newCmd_flat env _ w rfl
  | .event _ _, w, _ => by simp only [instantiate]; exact newCmd_flat env _ w rfl
  | .notify _ _, w, _ => by simp only [instantiate]; exact newCmd_flat env _ w rfl
  | .req _ _ _, w, _ => by simp only [instantiate]; exact newCmd_flat env _ w rfl
  | .stream _ _ _, w, _ => by simp only [instantiate]; exact newCmd_flat env _ w rfl
  | .chain s n e st tag, w, _ => by simp only [instantiate]; exact newCmd_flat env _ w (chainStart_free s n e st tag)
  | .task is, w, h => by simp only [instantiate]; exact newCmd_flat env _ w h
  | .abortable name c, w, h => by
    simp only [instantiate]
    have := instantiate_flat env c w h
    exact ⟨this.cid, this.cmds, this.metas, this.ready, this.spawn⟩
  | .thenC _ _, _, h => by cases h
  | .andC _ _, _, h => by cases h
  | .all _, _, h => by cases h
  | .mapEf _ _, _, h => by cases h
  | .mapEv _ _, _, h => by cases h

/-- `update` + spawn of a flat command (and host-free legacy tasks) -/
theorem QI.extend {k : Core} (hk : QI k none) (W : World) (newc : CmdSt) (L : List ExecTask) (lg : List Ev)
    (hcmds : W.cmds = k.w.cmds ++ [newc]) (hmetas : W.metas = k.w.metas ++ [({} : Meta)]) (hr : W.execReady = k.w.execReady)
    (hs : W.execSpawn = k.w.execSpawn ++ L ++ [.cmd k.w.cmds.length]) (hL : ∀ t ∈ L, legacyHF t = true)
    (hnt : ∀ t ∈ newc.tasks.values, hostFreeB t.fut = true) (hns : newc.spawnQ = []) :
    QI { k with w := W, log := lg } none := by
  have hold : ∀ c, c < k.w.cmds.length → W.cmd c = k.w.cmd c := by
    intro c hc; simp only [World.cmd, hcmds]; exact cmd_append_lt _ _ _ hc
  have hnew : W.cmd k.w.cmds.length = newc := by simp [World.cmd, hcmds]
  have hout : ∀ c, k.w.cmds.length < c → W.cmd c = {} := by
    intro c hc; simp only [World.cmd, hcmds]; rw [List.getElem?_eq_none (by simp; omega)]; rfl
  have hlen : W.cmds.length = k.w.cmds.length + 1 := by simp [hcmds]
  have hab : ∀ c, c < k.w.cmds.length → W.aborted c = k.w.aborted c := by
    intro c hc
    have hm : ∀ s, W.getMeta s = k.w.getMeta s := fun s =>
      (by simp only [World.getMeta, World.newMeta, hmetas] : W.getMeta s = k.w.newMeta.2.getMeta s).trans
        (World.getMeta_newMeta k.w s)
    simp only [World.aborted, hold c hc, hm]
  have hsp : ∀ t, t ∈ k.w.execSpawn → t ∈ W.execSpawn := fun t h => by
    simp only [hs, List.mem_append]; exact Or.inl (Or.inl h)
  refine ⟨hk.wf, ?_, hk.th, ?_, ?_, ?_, ?_, hk.flat⟩
  · intro c
    rcases Nat.lt_trichotomy c k.w.cmds.length with h | h | h
    · exact ⟨by rw [hold c h]; exact (hk.hf c).t, by rw [hold c h]; exact (hk.hf c).s⟩
    · subst h; exact ⟨by rw [hnew]; exact hnt, by rw [hnew, hns]; intro t ht; cases ht⟩
    · exact ⟨by rw [hout c h]; intro t ht; simp [Slab.values] at ht, by rw [hout c h]; intro t ht; cases ht⟩
  · intro t ht
    simp only [hs, List.mem_append, List.mem_singleton] at ht
    rcases ht with (ht | ht) | rfl
    · exact hk.sh t ht
    · exact legacyHF_execHF (hL t ht)
    · rfl
  · intro e c hc
    show c < W.cmds.length
    have := hk.host e c hc
    omega
  · intro c hc
    show c < W.cmds.length
    simp only [hs, List.mem_append, List.mem_singleton] at hc
    rcases hc with (hc | hc) | hc
    · have := hk.spawnIn c hc; omega
    · have := hL _ hc; cases this
    · cases hc; omega
  · intro c hc hal
    refine Or.inl ?_
    have hc' : c < k.w.cmds.length + 1 := by rw [← hlen]; exact hc
    by_cases h : c < k.w.cmds.length
    · exact (hk.allQ c h (by rw [← hold c h]; exact hal)).transport (hold c h) (hab c h)
        (·.mono (fun _ h => h) (fun e h => by rw [hr]; exact h) hsp) (fun _ h => h)
    · have e : c = k.w.cmds.length := by omega
      subst e
      have sc : sched k.execTasks W k.w.cmds.length := Or.inr (by simp [hs])
      exact ⟨Or.inl sc, fun _ _ => sc, Or.inl sc⟩

theorem update_ind {P : Core → Prop} (ev : Ev) (k : Core)
    (body : ∀ (c : Cmd) (ls : List (List Instr)), ((∃ tag, (tag, c, ls) ∈ k.prog) ∨ (c = .done ∧ ls = [])) →
      ∀ env : Env, ∀ w0 : World,
        w0 = { k.w with execSpawn := k.w.execSpawn ++ ls.map fun is => ExecTask.legacy (.mk env .idle is) } →
        P { k with w := { (instantiate env c w0).2 with execSpawn := (instantiate env c w0).2.execSpawn ++ [.cmd (instantiate env c w0).1] },
                   log := k.log ++ [ev] }) :
    P (update ev k) := by
  rcases update_cases ev k with ⟨tag, c, ls, hm, e⟩ | e <;> rw [e]
  · exact body c ls (Or.inl ⟨tag, hm⟩) _ _ rfl
  · exact body .done [] (Or.inr ⟨rfl, rfl⟩) _ _ rfl

theorem update_q (ev : Ev) (k : Core) (hk : QI k none) : QI (update ev k) none := by
  refine update_ind (P := fun k => QI k none) ev k fun c ls hcl env w0 hw0 => ?_
  have hflat : flatCmd c = true ∧ ∀ is ∈ ls, hostFreeIs is = true := by
    rcases hcl with ⟨tag, hm⟩ | ⟨rfl, rfl⟩
    · exact hk.flat _ hm
    · exact ⟨rfl, fun _ h => by cases h⟩
  have nf := instantiate_flat env c w0 hflat.1
  obtain ⟨is, his, hcm⟩ := nf.cmds
  subst hw0
  refine hk.extend _ _ (ls.map fun is => ExecTask.legacy (.mk env .idle is)) _ hcm nf.metas nf.ready ?_ ?_ ?_ rfl
  · show _ ++ _ = _
    rw [nf.spawn, nf.cid]
  · intro t ht
    simp only [List.mem_map] at ht
    obtain ⟨is', his', rfl⟩ := ht
    simp [legacyHF, hostFreeB, hostFreeP, hflat.2 is' his']
  · intro t ht
    simp only [freshCmd, Slab.insert, Slab.empty, Slab.values, List.nil_append, List.filterMap_cons, id, List.filterMap_nil,
      List.mem_singleton] at ht
    subst ht
    simp [hostFreeB, hostFreeP, his]

theorem QI.of_fields {k k' : Core} (h : QI k none) (hc : k'.w.cmds = k.w.cmds) (hm : k'.w.metas = k.w.metas)
    (hr : k'.w.execReady = k.w.execReady) (hs : k'.w.execSpawn = k.w.execSpawn) (ht : k'.execTasks = k.execTasks)
    (hp : k'.prog = k.prog) : QI k' none := by
  have h1 := h.same (w' := k'.w) (by rw [hc]) hm (fun e he => by rw [hr]; exact he) hs
    (fun c => Or.inl (by simp [World.cmd, hc]))
  exact ⟨by rw [ht]; exact h1.wf, h1.hf, by rw [ht]; exact h1.th, h1.sh, by rw [ht]; exact h1.host, h1.spawnIn,
    by rw [ht]; exact h1.q, by rw [hp]; exact h1.flat⟩

theorem processLoop_q : ∀ (f : Nat) (k k' : Core), processLoop f k = some k' → QI k none → QI k' none :=
  processLoop_inv (fun _ ev _ hk _ => update_q ev _ (hk.of_fields rfl rfl rfl rfl rfl rfl)) runAll_q

theorem process_q (k : Core) (es : List Eff) (k' : Core) (h : process k = some (es, k')) (hk : QI k none) :
    QI k' none ∧ k'.w.execSpawn = [] ∧ k'.w.execReady = [] :=
  ⟨process_inv runAll_q processLoop_q (fun _ hk => hk.of_fields rfl rfl rfl rfl rfl rfl) k es k' h hk,
    (process_post k k' es h).2.2⟩

theorem processEvent_q (ev : Ev) (k : Core) (es : List Eff) (k' : Core) (h : processEvent ev k = some (es, k'))
    (hk : QI k none) : QI k' none ∧ k'.w.execSpawn = [] ∧ k'.w.execReady = [] := process_q _ _ _ h (update_q ev k hk)

/-- **Quiescence.** In a state satisfying the scheduling invariant whose executor queues are empty, no live, un-aborted
    command has anything left to do: its ready queue, its spawn queue and its effect and event queues are all empty. -/
theorem QI.quiescent {k : Core} (hk : QI k none) (e1 : k.w.execSpawn = []) (e2 : k.w.execReady = []) (c : Nat)
    (hc : c < k.w.cmds.length) (hal : (k.w.cmd c).alive = true) (hna : k.w.aborted c = false) :
    (k.w.cmd c).ready = [] ∧ (k.w.cmd c).spawnQ = [] ∧ (k.w.cmd c).effects = [] ∧ (k.w.cmd c).events = [] := by
  have q := hk.allQ c hc hal
  have ns : ¬ sched k.execTasks k.w c := by
    rintro (⟨e, _, hr⟩ | h)
    · rw [e2] at hr; cases hr
    · rw [e1] at h; cases h
  have nn : ¬ Nw k.w c := fun hn => ns (q.b hna hn)
  unfold Nw at nn
  simp only [not_or, ne_eq, Decidable.not_not] at nn
  exact nn

theorem QI.step_none {k : Core} (hk : QI k none) (w' : World) (q : QS none k.w w') (hs : w'.execSpawn = k.w.execSpawn) :
    QI { k with w := w' } none :=
  hk.step q (fun c e => by cases e) (fun t ht => Or.inl (by rw [hs] at ht; exact ht))

end M.Rt

namespace M.Hosts
open M.Rt

theorem QI_ops : CoreOps (fun k => QI k none) where
  pe := fun ev k es k' h hk => (processEvent_q ev k es k' h hk).1
  pr := fun k es k' h hk => (process_q k es k' h hk).1
  res := fun k r v hk => hk.step_none _ (resolveReq_qs none r v k.w) (es_of_X (X_resolveReq r v k.w))
  ds := fun k l hk => hk.step_none _ (dropSender_qs none k.w l) (es_of_X (X_dropSender k.w l))
  ab := fun k n hk => hk.step_none _ ((QS.shell none k.w).ab k.w n (QS.refl _ _)) (es_of_X (X_doAbort n k.w))

def Quiet (k : Core) : Prop := QI k none ∧ k.w.execSpawn = [] ∧ k.w.execReady = []

theorem CoreHost.step_q (h : CoreHost) (a : Action) (o : Obs) (h' : CoreHost) (hs : h.step a = some (o, h'))
    (hw : QI h.k none) : Quiet h'.k :=
  CoreHost.step_post QI_ops (fun ev k es k' hp hk => processEvent_q ev k es k' hp hk) h a o h' hs hw

theorem QI_init (prog : Prog) (hp : progFlat prog) : QI ({ prog := prog } : Core) none := by
  refine ⟨Slab.wf_empty, ?_, ?_, ?_, ?_, ?_, ?_, hp⟩
  · intro c; exact ⟨by intro t ht; simp [World.cmd, Slab.values] at ht, by intro t ht; simp [World.cmd] at ht⟩
  · intro t ht; cases ht
  · intro t ht; cases ht
  · intro e c hh; simp [hostedBy, Slab.get?] at hh
  · intro c hh; cases hh
  · intro c hc; simp at hc

/-- **The scheduling invariant holds after every history (flat apps).** For every app whose `update` returns commands without
    combinators — any task program with `spawn`, `join!`, `select!`, streams, hand-offs, join handles, abort handles, builder
    chains — plus host-free legacy capability tasks, after EVERY history of events, resolutions, drops, aborts and probes,
    `QI h.k none` holds. That the executor's queues are then empty (`CoreHost.step_q`) and that therefore no live, un-aborted
    command has a ready task, a spawned task waiting to start, or a queued effect or event (`QI.quiescent`) is put together
    in `Props.C01.core_call_quiescent_flat`. -/
theorem runCore_quiescent (prog : Prog) (hp : progFlat prog) (canon : Bool) (acts : List Action) (os : List Obs) (h : CoreHost)
    (hr : runCore prog canon acts = some (os, h)) : QI h.k none :=
  runCore_inv QI_ops prog (QI_init prog hp) canon acts os h hr

end M.Hosts
