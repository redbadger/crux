/-
UTF-8 well-formedness: the byte-level automaton of the model (`M.Http.validUtf8`, Unicode table 3-7) accepts exactly the
encodings of sequences of Unicode scalar values (`S.Http.encodeUtf8`).

A scalar value is handled through its base-64 digits: once it is written `d2 * 4096 + d1 * 64 + d0`, its bytes are
`224 + d2, 128 + d1, 128 + d0` and every range condition is linear in the digits.
-/
import CruxVerif.Spec.Http
namespace Lemmas.Utf8
open M.Http S.Http

theorem exists_digits2 (c : Nat) : ∃ d1 d0, d0 < 64 ∧ c = d1 * 64 + d0 :=
  ⟨c / 64, c % 64, by omega⟩

theorem exists_digits3 (c : Nat) : ∃ d2 d1 d0, d1 < 64 ∧ d0 < 64 ∧ c = d2 * 4096 + d1 * 64 + d0 :=
  ⟨c / 4096, c / 64 % 64, c % 64, by omega⟩

theorem exists_digits4 (c : Nat) :
    ∃ d3 d2 d1 d0, d2 < 64 ∧ d1 < 64 ∧ d0 < 64 ∧ c = d3 * 262144 + d2 * 4096 + d1 * 64 + d0 :=
  ⟨c / 262144, c / 4096 % 64, c / 64 % 64, c % 64, by omega⟩

theorem isScalar_iff (c : Nat) : isScalar c = true ↔ (c < 55296 ∨ (57344 ≤ c ∧ c < 1114112)) := by
  simp only [isScalar, Bool.or_eq_true, Bool.and_eq_true, decide_eq_true_eq]

theorem encodeScalar_one {c : Nat} (h : c < 128) : encodeScalar c = [c] := by
  rw [encodeScalar, if_pos h]

theorem encodeScalar_two {c d1 d0 : Nat} (hc : c = d1 * 64 + d0) (h0 : d0 < 64) (lo : 128 ≤ c) (hi : c < 2048) :
    encodeScalar c = [192 + d1, 128 + d0] := by
  rw [encodeScalar, if_neg (by omega), if_pos hi, show c / 64 = d1 by omega, show c % 64 = d0 by omega]

theorem encodeScalar_three {c d2 d1 d0 : Nat} (hc : c = d2 * 4096 + d1 * 64 + d0) (h1 : d1 < 64) (h0 : d0 < 64)
    (lo : 2048 ≤ c) (hi : c < 65536) : encodeScalar c = [224 + d2, 128 + d1, 128 + d0] := by
  rw [encodeScalar, if_neg (by omega), if_neg (by omega), if_pos hi, show c / 4096 = d2 by omega,
    show c / 64 % 64 = d1 by omega, show c % 64 = d0 by omega]

theorem encodeScalar_four {c d3 d2 d1 d0 : Nat} (hc : c = d3 * 262144 + d2 * 4096 + d1 * 64 + d0) (h2 : d2 < 64)
    (h1 : d1 < 64) (h0 : d0 < 64) (lo : 65536 ≤ c) :
    encodeScalar c = [240 + d3, 128 + d2, 128 + d1, 128 + d0] := by
  rw [encodeScalar, if_neg (by omega), if_neg (by omega), if_neg (by omega), show c / 262144 = d3 by omega,
    show c / 4096 % 64 = d2 by omega, show c / 64 % 64 = d1 by omega, show c % 64 = d0 by omega]

theorem utf8Go_zero (lo hi : Nat) (l : Bytes) : utf8Go 0 lo hi l = utf8Go 0 0 0 l := by
  cases l <;> simp [utf8Go]

theorem utf8Go_cont {n lo hi b : Nat} (h1 : lo ≤ b) (h2 : b ≤ hi) (r : Bytes) :
    utf8Go (n + 1) lo hi (b :: r) = utf8Go n 128 191 r := by
  simp only [utf8Go, h1, h2, decide_true, Bool.and_self, if_true]

theorem utf8Go_succ {n lo hi : Nat} {l : Bytes} (h : utf8Go (n + 1) lo hi l = true) :
    ∃ b r, l = b :: r ∧ lo ≤ b ∧ b ≤ hi ∧ utf8Go n 128 191 r = true := by
  cases l with
  | nil => simp [utf8Go] at h
  | cons b r =>
    simp only [utf8Go] at h
    split at h
    · rename_i hc
      simp only [Bool.and_eq_true, decide_eq_true_eq] at hc
      exact ⟨b, r, rfl, hc.1, hc.2, h⟩
    · cases h

theorem utf8Go_lead (b : Nat) (r : Bytes) : utf8Go 0 0 0 (b :: r) =
    if b < 128 then utf8Go 0 0 0 r
    else if 194 ≤ b ∧ b ≤ 223 then utf8Go 1 128 191 r
    else if b = 224 then utf8Go 2 160 191 r
    else if ((225 ≤ b ∧ b ≤ 236) ∨ b = 238) ∨ b = 239 then utf8Go 2 128 191 r
    else if b = 237 then utf8Go 2 128 159 r
    else if b = 240 then utf8Go 3 144 191 r
    else if 241 ≤ b ∧ b ≤ 243 then utf8Go 3 128 191 r
    else if b = 244 then utf8Go 3 128 143 r
    else false := by
  simp only [utf8Go, Bool.and_eq_true, Bool.or_eq_true, decide_eq_true_eq, beq_iff_eq]

/-! What a first byte demands, by the length of the sequence it opens (the rows of table 3-7). -/

theorem utf8Go_lead1 {b : Nat} (h : b < 128) (r : Bytes) : utf8Go 0 0 0 (b :: r) = utf8Go 0 0 0 r := by
  rw [utf8Go_lead, if_pos h]

theorem utf8Go_lead2 {b : Nat} (h : 194 ≤ b ∧ b ≤ 223) (r : Bytes) :
    utf8Go 0 0 0 (b :: r) = utf8Go 1 128 191 r := by
  rw [utf8Go_lead, if_neg (by omega), if_pos h]

/-- the second byte is a continuation byte, except that `224` excludes the overlong forms and `237` the surrogates -/
theorem utf8Go_lead3 {b : Nat} (h : 224 ≤ b ∧ b ≤ 239) :
    ∃ lo hi, (∀ r, utf8Go 0 0 0 (b :: r) = utf8Go 2 lo hi r) ∧
      (b = 224 → lo = 160) ∧ (b ≠ 224 → lo = 128) ∧ (b = 237 → hi = 159) ∧ (b ≠ 237 → hi = 191) := by
  rcases (by omega : b = 224 ∨ b = 237 ∨ (b ≠ 224 ∧ b ≠ 237)) with rfl | rfl | h'
  · exact ⟨160, 191, fun _ => rfl, by omega⟩
  · exact ⟨128, 159, fun _ => rfl, by omega⟩
  · refine ⟨128, 191, fun r => ?_, by omega⟩
    rw [utf8Go_lead, if_neg (by omega), if_neg (by omega), if_neg h'.1, if_pos (by omega)]

/-- the second byte is a continuation byte, except that `240` excludes the overlong forms and `244` what lies above
    U+10FFFF -/
theorem utf8Go_lead4 {b : Nat} (h : 240 ≤ b ∧ b ≤ 244) :
    ∃ lo hi, (∀ r, utf8Go 0 0 0 (b :: r) = utf8Go 3 lo hi r) ∧
      (b = 240 → lo = 144) ∧ (b ≠ 240 → lo = 128) ∧ (b = 244 → hi = 143) ∧ (b ≠ 244 → hi = 191) := by
  rcases (by omega : b = 240 ∨ b = 244 ∨ (241 ≤ b ∧ b ≤ 243)) with rfl | rfl | h'
  · exact ⟨144, 191, fun _ => rfl, by omega⟩
  · exact ⟨128, 143, fun _ => rfl, by omega⟩
  · refine ⟨128, 191, fun r => ?_, by omega⟩
    rw [utf8Go_lead, if_neg (by omega), if_neg (by omega), if_neg (by omega), if_neg (by omega), if_neg (by omega),
      if_neg (by omega), if_pos h']

theorem utf8Go_lead_none {b : Nat} (h : (128 ≤ b ∧ b < 194) ∨ 245 ≤ b) (r : Bytes) :
    utf8Go 0 0 0 (b :: r) = false := by
  rw [utf8Go_lead, if_neg (by omega), if_neg (by omega), if_neg (by omega), if_neg (by omega), if_neg (by omega),
    if_neg (by omega), if_neg (by omega), if_neg (by omega)]

theorem utf8Go_encodeScalar (c : Nat) (hc : isScalar c = true) (rest : Bytes) :
    utf8Go 0 0 0 (encodeScalar c ++ rest) = utf8Go 0 0 0 rest := by
  rw [isScalar_iff] at hc
  rcases (by omega : c < 128 ∨ (128 ≤ c ∧ c < 2048) ∨ (2048 ≤ c ∧ c < 65536) ∨ 65536 ≤ c) with
    h | h | h | h
  · rw [encodeScalar_one h]
    exact utf8Go_lead1 h rest
  · obtain ⟨d1, d0, h0, hd⟩ := exists_digits2 c
    rw [encodeScalar_two hd h0 h.1 h.2]
    simp only [List.cons_append, List.nil_append]
    rw [utf8Go_lead2 (by omega), utf8Go_cont (by omega) (by omega), utf8Go_zero]
  · obtain ⟨d2, d1, d0, h1, h0, hd⟩ := exists_digits3 c
    rw [encodeScalar_three hd h1 h0 h.1 h.2]
    obtain ⟨lo, hi, e, hl⟩ := utf8Go_lead3 (b := 224 + d2) (by omega)
    simp only [List.cons_append, List.nil_append]
    rw [e, utf8Go_cont (by omega) (by omega), utf8Go_cont (by omega) (by omega), utf8Go_zero]
  · obtain ⟨d3, d2, d1, d0, h2, h1, h0, hd⟩ := exists_digits4 c
    rw [encodeScalar_four hd h2 h1 h0 h]
    obtain ⟨lo, hi, e, hl⟩ := utf8Go_lead4 (b := 240 + d3) (by omega)
    simp only [List.cons_append, List.nil_append]
    rw [e, utf8Go_cont (by omega) (by omega), utf8Go_cont (by omega) (by omega), utf8Go_cont (by omega) (by omega),
      utf8Go_zero]

theorem validUtf8_encodeUtf8 (cs : List Nat) (h : cs.all isScalar = true) : validUtf8 (encodeUtf8 cs) = true := by
  unfold validUtf8
  induction cs with
  | nil => simp [encodeUtf8, utf8Go]
  | cons c cs ih =>
    simp only [List.all_cons, Bool.and_eq_true] at h
    have : encodeUtf8 (c :: cs) = encodeScalar c ++ encodeUtf8 cs := by simp [encodeUtf8]
    rw [this, utf8Go_encodeScalar c h.1]
    exact ih h.2

theorem exists_scalars (n : Nat) : ∀ b : Bytes, b.length ≤ n → utf8Go 0 0 0 b = true →
    ∃ cs, cs.all isScalar = true ∧ encodeUtf8 cs = b := by
  induction n with
  | zero =>
    intro b hb _
    have : b = [] := List.length_eq_zero_iff.mp (by omega)
    exact ⟨[], by simp, by simp [this, encodeUtf8]⟩
  | succ n ih =>
    intro b hb hv
    cases b with
    | nil => exact ⟨[], by simp, by simp [encodeUtf8]⟩
    | cons b0 r =>
      simp only [List.length_cons] at hb
      -- peel off a first scalar value `c` with encoding `seq`; the induction hypothesis decodes the rest `r'`
      have key : ∀ (c : Nat) (seq r' : Bytes), isScalar c = true → encodeScalar c = seq → b0 :: r = seq ++ r' →
          r'.length ≤ n → utf8Go 0 0 0 r' = true → ∃ cs, cs.all isScalar = true ∧ encodeUtf8 cs = b0 :: r := by
        intro c seq r' hc he hr hlen hv'
        obtain ⟨cs, hcs, hcs'⟩ := ih r' hlen hv'
        exact ⟨c :: cs, by simp [hc, hcs], by simp [encodeUtf8] at hcs' ⊢; rw [he, hcs', hr]⟩
      rcases (by omega : b0 < 128 ∨ ((128 ≤ b0 ∧ b0 < 194) ∨ 245 ≤ b0) ∨ (194 ≤ b0 ∧ b0 ≤ 223) ∨
        (224 ≤ b0 ∧ b0 ≤ 239) ∨ (240 ≤ b0 ∧ b0 ≤ 244)) with h | h | h | h | h
      · rw [utf8Go_lead1 h] at hv
        exact key b0 [b0] r ((isScalar_iff b0).mpr (by omega)) (encodeScalar_one h) rfl (by omega) hv
      · rw [utf8Go_lead_none h] at hv
        cases hv
      · rw [utf8Go_lead2 h] at hv
        obtain ⟨b1, r1, rfl, h1a, h1b, hv1⟩ := utf8Go_succ hv
        rw [utf8Go_zero] at hv1
        obtain ⟨d1, rfl⟩ := Nat.exists_eq_add_of_le (Nat.le_trans (by decide : 192 ≤ 194) h.1)
        obtain ⟨d0, rfl⟩ := Nat.exists_eq_add_of_le h1a
        exact key (d1 * 64 + d0) _ r1 ((isScalar_iff _).mpr (by omega))
          (encodeScalar_two rfl (by omega) (by omega) (by omega)) rfl (by simp only [List.length_cons] at hb; omega) hv1
      · obtain ⟨lo, hi, e, hl⟩ := utf8Go_lead3 h
        rw [e] at hv
        obtain ⟨b1, r1, rfl, h1a, h1b, hv1⟩ := utf8Go_succ hv
        obtain ⟨b2, r2, rfl, h2a, h2b, hv2⟩ := utf8Go_succ hv1
        rw [utf8Go_zero] at hv2
        obtain ⟨d2, rfl⟩ := Nat.exists_eq_add_of_le h.1
        obtain ⟨d1, rfl⟩ := Nat.exists_eq_add_of_le (show 128 ≤ b1 by omega)
        obtain ⟨d0, rfl⟩ := Nat.exists_eq_add_of_le h2a
        exact key (d2 * 4096 + d1 * 64 + d0) _ r2 ((isScalar_iff _).mpr (by omega))
          (encodeScalar_three rfl (by omega) (by omega) (by omega) (by omega)) rfl
          (by simp only [List.length_cons] at hb; omega) hv2
      · obtain ⟨lo, hi, e, hl⟩ := utf8Go_lead4 h
        rw [e] at hv
        obtain ⟨b1, r1, rfl, h1a, h1b, hv1⟩ := utf8Go_succ hv
        obtain ⟨b2, r2, rfl, h2a, h2b, hv2⟩ := utf8Go_succ hv1
        obtain ⟨b3, r3, rfl, h3a, h3b, hv3⟩ := utf8Go_succ hv2
        rw [utf8Go_zero] at hv3
        obtain ⟨d3, rfl⟩ := Nat.exists_eq_add_of_le h.1
        obtain ⟨d2, rfl⟩ := Nat.exists_eq_add_of_le (show 128 ≤ b1 by omega)
        obtain ⟨d1, rfl⟩ := Nat.exists_eq_add_of_le h2a
        obtain ⟨d0, rfl⟩ := Nat.exists_eq_add_of_le h3a
        exact key (d3 * 262144 + d2 * 4096 + d1 * 64 + d0) _ r3 ((isScalar_iff _).mpr (by omega))
          (encodeScalar_four rfl (by omega) (by omega) (by omega) (by omega)) rfl
          (by simp only [List.length_cons] at hb; omega) hv3

theorem validUtf8_iff (b : Bytes) : validUtf8 b = true ↔ ∃ cs, cs.all isScalar = true ∧ encodeUtf8 cs = b := by
  constructor
  · intro h; exact exists_scalars b.length b (Nat.le_refl _) h
  · rintro ⟨cs, hcs, rfl⟩; exact validUtf8_encodeUtf8 cs hcs

end Lemmas.Utf8
