/-
Completeness of eviction over whole runs of the direct host. The bundle `CS` (context, simpleS, nothing aborted, `WOwn`,
`NDS`) is kept by one iteration of the executor's loop, by spawning, by taking the queued outputs and by the shell — whoever
takes a registered waker wakes it (`take_wake_stale`) — hence by every history (`runDirect_cs`); every observation
leaves the ready queue empty, and every stored task is held by a channel whose sender is alive (`runDirect_charged`).
-/
import CruxVerif.Lemmas.Complete
namespace M.Rt

theorem take_wake_stale (w : World) (l0 : Nat) (f : Leaf → Leaf) (hf : ∀ x, (f x).waker = none) (c tid : Nat)
    (hal : (w.cmd c).alive = true) (hin : c < w.cmds.length) (h : StaleW c tid w ∨ RD c tid w) :
    StaleW c tid (match (w.leaf l0).waker with | some wk => (w.modLeaf l0 f).wake wk | none => w.modLeaf l0 f) ∨
    RD c tid (match (w.leaf l0).waker with | some wk => (w.modLeaf l0 f).wake wk | none => w.modLeaf l0 f) := by
  rcases h with ⟨l, s, hk⟩ | h
  · by_cases e : l0 = l
    · subst e
      right
      simp only [hk]
      exact wake_queues c tid s (w.modLeaf l0 f) hal hin
    · left
      refine ⟨l, s, ?_⟩
      split
      · rw [leaf_wake, leaf_modLeaf_other w l0 l f e]; exact hk
      · rw [leaf_modLeaf_other w l0 l f e]; exact hk
  · right
    split
    · exact rd_World_wake _ (rd_modLeaf _ _ h)
    · exact rd_modLeaf _ _ h

/-- resolving and dropping a request are made of two moves on one channel: a change that keeps its waker, and taking the
    waker (clearing the slot, then waking what was there) -/
theorem shell_of_take {J : World → Prop}
    (keep : ∀ w l (f : Leaf → Leaf), (∀ x, (f x).waker = x.waker) → J w → J (w.modLeaf l f))
    (take : ∀ w l (f : Leaf → Leaf), (∀ x, (f x).waker = none) → J w →
      J (match (w.leaf l).waker with | some wk => (w.modLeaf l f).wake wk | none => w.modLeaf l f)) :
    (∀ w r v, J w → J (resolveReq r v w).2.2) ∧ ∀ w l, J w → J (w.dropSender l) := by
  have ds : ∀ w l, J w → J (w.dropSender l) := by
    intro w l hw
    unfold World.dropSender
    simp only
    split
    · exact keep w l _ (fun _ => rfl) hw
    · exact take w l _ (fun _ => rfl) hw
  exact ⟨fun w r v hw => resolveReq_inv (fun w l _ _ hw => take w l _ (fun _ => rfl) hw) ds r v w hw, ds⟩

theorem nab_shell : (∀ w r v, NAb w → NAb (resolveReq r v w).2.2) ∧ ∀ w l, NAb w → NAb (w.dropSender l) :=
  shell_of_take (fun _ l f _ h => nab_modLeaf l f h) fun w l f _ h => by
    split
    · exact nab_wake _ (nab_modLeaf l f h)
    · exact nab_modLeaf l f h

/-- every waker a channel holds in `w'` it held in `w` -/
def WSub (w w' : World) : Prop := ∀ l k, (w'.leaf l).waker = some k → (w.leaf l).waker = some k

theorem WSub.refl (w : World) : WSub w w := fun _ _ h => h
theorem WSub.trans {a b c : World} (h1 : WSub a b) (h2 : WSub b c) : WSub a c := fun l k h => h1 l k (h2 l k h)
theorem WSub.clear (w : World) (l0 : Nat) (f : Leaf → Leaf) (hf : ∀ x, (f x).waker = none) : WSub w (w.modLeaf l0 f) := by
  intro l k hk
  by_cases e : l0 = l
  · subst e
    rw [World.leaf_modLeaf_self] at hk
    cases hl : w.leaves[l0]? with
    | none => simp [hl] at hk
    | some x => simp [hl, hf] at hk
  · rw [leaf_modLeaf_other w l0 l f e] at hk; exact hk

theorem wsub_shell (w0 : World) :
    (∀ w r v, WSub w0 w → WSub w0 (resolveReq r v w).2.2) ∧ ∀ w l, WSub w0 w → WSub w0 (w.dropSender l) :=
  shell_of_take (fun w l f hf h l' k hk => h l' k (by rw [leaf_modLeaf_keep (·.waker) w l f hf] at hk; exact hk)) fun w l f hf h => by
    split
    · exact (h.trans (WSub.clear w l f hf)).trans fun l' k hk => by rw [leaf_wake] at hk; exact hk
    · exact h.trans (WSub.clear w l f hf)

theorem stale_shell (c tid : Nat) :
    let J := fun w : World => ((w.cmd c).alive = true ∧ c < w.cmds.length) ∧ (StaleW c tid w ∨ RD c tid w)
    (∀ w r v, J w → J (resolveReq r v w).2.2) ∧ ∀ w l, J w → J (w.dropSender l) := by
  refine shell_of_take (fun w l f hf h => ⟨h.1, h.2.imp ?_ (rd_modLeaf l f)⟩) fun w l f hf h =>
    ⟨?_, take_wake_stale w l f hf c tid h.1.1 h.1.2 h.2⟩
  · rintro ⟨l', s, hk⟩
    exact ⟨l', s, by rw [leaf_modLeaf_keep (·.waker) w l f hf]; exact hk⟩
  · split
    · have := alive_wake (w.modLeaf l f) ‹Waker› c
      exact ⟨by rw [this.1]; exact h.1.1, by rw [this.2]; exact h.1.2⟩
    · exact h.1

theorem dropSender_stale (w : World) (l0 : Nat) (c tid : Nat) (hal : (w.cmd c).alive = true) (hin : c < w.cmds.length)
    (h : StaleW c tid w ∨ RD c tid w) : StaleW c tid (w.dropSender l0) ∨ RD c tid (w.dropSender l0) :=
  ((stale_shell c tid).2 w l0 ⟨⟨hal, hin⟩, h⟩).2


structure CS (c : Nat) (w : World) : Prop where
  ctx : Ctx c w
  sp : SPS c w
  na : NAb w
  wo : WOwn c w
  nd : NDS c none w

theorem CS.modCmd_out {c : Nat} {w : World} (h : CS c w) (f : CmdSt → CmdSt) (ht : ∀ x, (f x).tasks = x.tasks)
    (hs : ∀ x, (f x).spawnQ = x.spawnQ) (hr : ∀ x, (f x).ready = x.ready) (ha : ∀ x, (f x).alive = x.alive)
    (hwk : ∀ x, (f x).waker = x.waker) : CS c (w.modCmd c f) :=
  have et : ((w.modCmd c f).cmd c).tasks = (w.cmd c).tasks := cmd_modCmd_keep (·.tasks) w c f ht
  ⟨h.ctx.modCmd f ht hs ha hwk,
    h.sp.modCmd f (fun x t hx => Or.inl (by rw [ht] at hx; exact hx)) (fun x t hx => Or.inl (by rw [hs] at hx; exact hx)),
    nab_modCmd _ _ h.na, h.wo.of_same et rfl,
    h.nd.same et fun tid hk => by rw [cmd_modCmd_keep (·.ready) w c f hr]; exact hk.imp id (StaleW.of_leaves rfl)⟩

theorem CS.iter {c tid : Nat} {rest : List Nat} {w : World} {st : TaskState} {w1 : World} (h : CS c w)
    (hr : (w.cmd c).ready = tid :: rest) (hrt : runTask c tid (w.modCmd c fun x => { x with ready := rest }) = some (st, w1)) :
    CS c (afterRun c tid st w1) := by
  have c0 : Ctx c (w.modCmd c fun x => { x with ready := rest }) :=
    h.ctx.modCmd _ (fun _ => rfl) (fun _ => rfl) (fun _ => rfl) (fun _ => rfl)
  have sp0 : SPS c (w.modCmd c fun x => { x with ready := rest }) := h.sp.modCmd _ (fun _ _ hx => Or.inl hx) fun _ _ hx => Or.inl hx
  have wo0 : WOwn c (w.modCmd c fun x => { x with ready := rest }) :=
    h.wo.of_same (cmd_modCmd_keep (·.tasks) w c _ fun _ => rfl) rfl
  have nd0 := h.nd.pop hr h.ctx.inr
  have hf1 : HFc c w1 := (c0.run hrt).2.2.2.2.1
  have sp1 : SPS c w1 := sp0.run c0.own.hfc hrt
  have na1 : NAb w1 := runTaskF_nas hrt c0.own.hfc sp0 (nab_modCmd _ _ h.na)
  have wo1 : WOwn c w1 := runTaskF_wown hrt c0.own c0.wfw wo0
  have nd1 : NDS c (some tid) w1 := nd0.run hrt c0.own.hfc (runTaskF_stale_others hrt c0.own c0.wfw wo0)
  have fin : Ctx c (finishTask c tid w1) → CS c (finishTask c tid w1) := fun ctx =>
    ⟨ctx, sp1.finish hf1, finishTask_na c tid w1 hf1 na1, finishTask_wown c tid w1 hf1 wo1,
      nd1.finish hf1 (finishTask_stale c tid w1 hf1)⟩
  cases st with
  | missing =>
    exact ⟨c0.afterRun hrt, sp1, na1, wo1, nd1.incl fun t hg => by rw [runTaskF_missing_gone _ c tid _ w1 hrt] at hg; cases hg⟩
  | suspended =>
    exact ⟨c0.afterRun hrt, sp1, na1, wo1, nd1.incl fun _ _ _ =>
      (runTaskF_dead_stale hrt c0.own.hfc sp0.t c0.sok c0.alive c0.inr).imp id fun ⟨l, hl⟩ => ⟨l, _, hl⟩⟩
  | completed => exact fin (c0.afterRun hrt)
  | cancelled => exact fin (c0.afterRun hrt)

theorem CS.spawn {c : Nat} {w : World} (h : CS c w) : CS c (spawnNewTasks c w) :=
  ⟨h.ctx.spawn, h.sp.spawn fun _ ht => ht.1, spawnNewTasks_na c w h.na, spawnNewTasks_wown c w h.ctx.inr h.sp h.wo,
    h.nd.spawn h.ctx.inr⟩

theorem CS.shell {c : Nat} {w w' : World} (h : CS c w) (fr : Fr c w w') (sk : SOk w') (tk : TK0 w w') (hl : LL w' = LL w)
    (q : QS none w w') (na : NAb w') (ws : WSub w w')
    (st : ∀ tid, StaleW c tid w ∨ RD c tid w → StaleW c tid w' ∨ RD c tid w') : CS c w' :=
  ⟨h.ctx.shell fr sk tk hl q, h.sp.tk0 tk, na,
    fun tid t hg l hl' c' t' s' hk => h.wo tid t (by rw [← tk.tasks c]; exact hg) l hl' c' t' s' (ws l _ hk),
    h.nd.same (tk.tasks c) fun tid hk => (st tid hk.symm).symm⟩


theorem runUntilSettled_ready {c : Nat} {w w' : World} (h : runUntilSettled c w = some w') (hq : NAb w) : (w'.cmd c).ready = [] :=
  (runUntilSettledF_settled _ c w w' (by rw [World.aborted, hq.getMeta]) h).1

end M.Rt

namespace M.Hosts
open M.Rt

theorem doAbort_of_nab {w : World} (h : NAb w) (n : Nat) : doAbort n w = w := by
  unfold doAbort
  rw [h.2]
  rfl

theorem CS_shell (c : Nat) : ShellOps (CS c) where
  res w r v h :=
    h.shell (fr_resolveReq c r v w) (resolveReq_keeps r v w h.ctx.sok).1 (tk0_resolveReq r v w) (LL_resolveReq r v w)
      (resolveReq_qs none r v w) (nab_shell.1 w r v h.na) ((wsub_shell w).1 w r v (WSub.refl w))
      fun tid hk => ((stale_shell c tid).1 w r v ⟨⟨h.ctx.alive, h.ctx.inr⟩, hk⟩).2
  ds w l h :=
    h.shell (fr_dropSender c w l) (Keeps.of_step h.ctx.sok (ns_dropSender w l) (SOkN.dropSender h.ctx.sok l)).1
      (tk0_dropSender w l) (LL_dropSender w l) (dropSender_qs none w l) (nab_shell.2 w l h.na) ((wsub_shell w).2 w l (WSub.refl w))
      fun tid hk => ((stale_shell c tid).2 w l ⟨⟨h.ctx.alive, h.ctx.inr⟩, hk⟩).2
  ab w n h := by rw [doAbort_of_nab h.na]; exact h

theorem CS_ops : DirectOps CS where
  settle c w w' hs h :=
    runUntilSettledF_inv (J := CS c)
      (fun w ha h => by rw [World.aborted, h.na.getMeta] at ha; cases ha)
      (settleLoop_inv (fun _ h => h.spawn) (drainReady_ind fun _ _ _ _ _ h hr hrt => h.iter hr hrt)) w w' hs h
  effs _ _ h := h.modCmd_out _ (fun _ => rfl) (fun _ => rfl) (fun _ => rfl) (fun _ => rfl) (fun _ => rfl)
  evs _ _ h := h.modCmd_out _ (fun _ => rfl) (fun _ => rfl) (fun _ => rfl) (fun _ => rfl) (fun _ => rfl)
  shell := CS_shell


theorem Direct_new_task (is : List Instr) (canon : Bool) :
    (∀ t ∈ ((Direct.new (.task is) canon).w.cmd (Direct.new (.task is) canon).cid).tasks.values, t.fut = .mk {} .idle is) ∧
    ((Direct.new (.task is) canon).w.cmd (Direct.new (.task is) canon).cid).spawnQ = [] := by
  constructor
  · intro t ht
    unfold Direct.new at ht
    simp [instantiate, newCmd, World.newMeta, World.cmd, Slab.insert, Slab.empty, Slab.values] at ht
    subst ht
    rfl
  · unfold Direct.new
    simp [instantiate, newCmd, World.newMeta, World.cmd]

theorem CS_init (is : List Instr) (hf : hostFreeIs is = true) (hs : simpleSIs is = true) (canon : Bool) :
    CS (Direct.new (.task is) canon).cid (Direct.new (.task is) canon).w := by
  have one := Direct_new_task is canon
  refine ⟨(GInv_init is hf canon).ctx, ⟨?_, ?_⟩, ⟨?_, ?_⟩, ?_, ?_⟩
  · intro t ht
    rw [one.1 t ht]
    simp [simpleSB, simpleSP, hs]
  · intro t ht
    rw [one.2] at ht; cases ht
  · intro m hm
    unfold Direct.new at hm
    simp [instantiate, newCmd, World.newMeta] at hm
    subst hm; rfl
  · unfold Direct.new
    simp [instantiate, newCmd, World.newMeta]
  · intro tid t hg l hl
    rw [one.1 t (Slab.mem_values_of_get _ _ _ hg)] at hl
    simp [refsB, refsP] at hl
  · intro tid t hg _ hd
    rw [one.1 t (Slab.mem_values_of_get _ _ _ hg)] at hd
    simp [deadOnlyB, deadOnlyP] at hd

theorem runDirect_cs (is : List Instr) (hf : hostFreeIs is = true) (hs : simpleSIs is = true) (canon : Bool)
    (acts : List Action) (os : List Obs) (d : Direct) (h : runDirect (.task is) canon acts = some (os, d)) :
    CS d.cid d.w ∧ (d.w.cmd d.cid).ready = [] :=
  (runDirect_post (Q := fun c w => (w.cmd c).ready = []) CS_ops (fun _ _ _ hs hw => runUntilSettled_ready hs hw.na) _ canon
    (CS_init is hf hs canon) acts os d h).2

theorem runDirect_ready (is : List Instr) (hf : hostFreeIs is = true) (hs : simpleIs is = true) (canon : Bool)
    (acts : List Action) (os : List Obs) (d : Direct) (h : runDirect (.task is) canon acts = some (os, d)) :
    (d.w.cmd d.cid).ready = [] :=
  (runDirect_cs is hf (simpleSIs_of_simpleIs is hs) canon acts os d h).2

end M.Hosts

namespace M.Rt

mutual
theorem deadOnly_of_goneOnly_s : ∀ (b : Block), simpleSB b = true → goneOnlyB b = true → deadOnlyB b = true
  | .mk _ cur _, hs, hg => by
    rw [ssB_eq, Bool.and_eq_true] at hs
    rw [goneOnlyB] at hg
    rw [deadOnlyB]
    exact deadOnlyP_of_goneOnlyP_s cur hs.1 hg
theorem deadOnlyP_of_goneOnlyP_s : ∀ (p : Pend), simpleSP p = true → goneOnlyP p = true → deadOnlyP p = true
  | .reqDead, _, _ => doP_reqDead
  | .streamBody _ _ _ _ _ inner, hs, hg => by
    rw [ssP_streamBody, Bool.and_eq_true] at hs
    rw [goneOnlyP] at hg
    rw [doP_streamBody]
    exact deadOnly_of_goneOnly_s inner hs.2 hg
  | .join a b ad bd, hs, hg => by
    rw [ssP_join, Bool.and_eq_true] at hs
    simp only [goneOnlyP, Bool.and_eq_true, Bool.or_eq_true] at hg
    simp only [doP_join, Bool.and_eq_true, Bool.or_eq_true]
    exact ⟨hg.1.imp id (deadOnly_of_goneOnly_s a hs.1), hg.2.imp id (deadOnly_of_goneOnly_s b hs.2)⟩
  | .select a b, hs, hg => by
    rw [ssP_select, Bool.and_eq_true] at hs
    simp only [goneOnlyP, Bool.and_eq_true] at hg
    simp only [deadOnlyP, Bool.and_eq_true]
    exact ⟨deadOnly_of_goneOnly_s a hs.1 hg.1, deadOnly_of_goneOnly_s b hs.2 hg.2⟩
  | .idle, _, hg | .selfwake _, _, hg | .req _ _, _, hg | .streamWait _ _ _ _ _, _, hg => by simp [goneOnlyP] at hg
  | .await _, hs, _ | .host _ _, hs, _ => by simp [simpleSP] at hs
end

mutual
theorem live_point_of_parked (wk : Waker) (w : World) :
    ∀ (b : Block), LPB wk w b → goneOnlyB b = false → ∃ l, l < w.leaves.length ∧ (w.leaf l).waker = some wk
  | .mk _ cur _, hp, hg => by
    rw [LPB] at hp
    rw [goneOnlyB] at hg
    exact live_point_of_parkedP wk w cur hp hg
theorem live_point_of_parkedP (wk : Waker) (w : World) :
    ∀ (p : Pend), LPP wk w p → goneOnlyP p = false → ∃ l, l < w.leaves.length ∧ (w.leaf l).waker = some wk
  | .req _ l, hp, _ => by rw [LPP] at hp; exact ⟨l, hp⟩
  | .streamWait _ l _ _ _, hp, _ => by rw [LPP] at hp; exact ⟨l, hp⟩
  | .streamBody _ _ _ _ _ inner, hp, hg => by
    rw [LPP] at hp
    rw [goneOnlyP] at hg
    exact live_point_of_parked wk w inner hp hg
  | .join a b ad bd, hp, hg => by
    rw [LPP] at hp
    simp only [goneOnlyP, Bool.and_eq_false_iff, Bool.or_eq_false_iff] at hg
    rcases hg with ⟨h1, h2⟩ | ⟨h1, h2⟩
    · exact live_point_of_parked wk w a (hp.1 h1) h2
    · exact live_point_of_parked wk w b (hp.2 h1) h2
  | .select a b, hp, hg => by
    rw [LPP] at hp
    simp only [goneOnlyP, Bool.and_eq_false_iff] at hg
    rcases hg with h1 | h1
    · exact live_point_of_parked wk w a hp.1 h1
    · exact live_point_of_parked wk w b hp.2 h1
  | .idle, hp, _ | .selfwake _, hp, _ => by simp [LPP] at hp
  | .reqDead, _, hg | .await _, _, hg | .host _ _, _, hg => by simp [goneOnlyP] at hg
end

end M.Rt

namespace M.Hosts
open M.Rt

/-- **every stored task is charged to a request the shell still holds**: after every history of a simpleS task program
    under the direct host, every task in the slab has its own waker registered in a channel whose sender is alive. A task
    that still waits somewhere is parked there (`GInv`); one that waits at closed requests only is held by a stale
    registration (`NDS`: the ready queue is empty); and a registered waker means a live sender (`LQ`). -/
theorem runDirect_charged (is : List Instr) (hf : hostFreeIs is = true) (hs : simpleSIs is = true) (canon : Bool)
    (acts : List Action) (os : List Obs) (d : Direct) (h : runDirect (.task is) canon acts = some (os, d)) (tid : Nat) (t : Task)
    (hg : (d.w.cmd d.cid).tasks.get? tid = some t) :
    ∃ l s, l < d.w.leaves.length ∧ (d.w.leaf l).waker = some (.task d.cid tid s) ∧
      ((d.w.leaf l).senderAlive = true ∨ (d.w.leaf l).legacy = true) := by
  obtain ⟨cs, hr⟩ := runDirect_cs is hf hs canon acts os d h
  have gl := runDirect_gl is hf canon acts os d h
  have held : StaleW d.cid tid d.w := by
    cases hgo : goneOnlyB t.fut with
    | false =>
      rcases gl.1.gp tid t hg nofun with h1 | h1 | ⟨s, h1⟩
      · rw [hr] at h1; cases h1
      · rw [cs.na.getMeta] at h1; cases h1
      · obtain ⟨l, _, hl⟩ := live_point_of_parked _ d.w t.fut h1 hgo
        exact ⟨l, s, hl⟩
    | true =>
      refine (cs.nd tid t hg nofun (deadOnly_of_goneOnly_s t.fut (cs.sp.t t (Slab.mem_values_of_get _ _ _ hg)) hgo)).resolve_left ?_
      rw [hr]; nofun
  obtain ⟨l, s, hl⟩ := held
  exact ⟨l, s, leaf_some_lt hl, hl, gl.2 l _ hl⟩

end M.Hosts
