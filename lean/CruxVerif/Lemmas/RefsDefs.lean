/-
Linearity of request channels through a poll ("no aliasing"), definitions.

`refsB b` = the leaf channels the suspended block `b` waits on (completed sides of a `join!` no longer count);
`spawnRefs sink w` = those of the tasks waiting in the spawn queue the block's spawns go to.
`Le sink (w, X) (w', X')`: from world `w` with references `X` held by the block under consideration to world `w'` with `X'`:
for EVERY leaf id, the number of references (block + spawn queue) does not grow — except by at most ONE for a leaf allocated
in between. Reflexive and transitive; the frame rule adds the same bystanders on both sides.
-/
import CruxVerif.Lemmas.K2Steps
namespace M.Rt

mutual
def refsB : Block → List Nat
  | .mk _ cur _ => refsP cur
def refsP : Pend → List Nat
  | .req _ l => [l]
  | .streamWait _ l _ _ _ => [l]
  | .streamBody _ l _ _ _ inner => l :: refsB inner
  | .join a b ad bd => (if ad then [] else refsB a) ++ (if bd then [] else refsB b)
  | .select a b => refsB a ++ refsB b
  | _ => []
end

def execRefs : ExecTask → List Nat
  | .legacy b => refsB b
  | .cmd _ => []

def spawnRefs (sink : Sink) (w : World) : List Nat :=
  match sink with
  | .cmd c => ((w.cmd c).spawnQ.map fun t => refsB t.fut).flatten
  | .core => (w.execSpawn.map execRefs).flatten

/-- 1 for a leaf allocated between `w` and `w'`, else 0 -/
def fresh (w w' : World) (l : Nat) : Nat := if w.leaves.length ≤ l ∧ l < w'.leaves.length then 1 else 0

structure Le (sink : Sink) (w : World) (X : List Nat) (w' : World) (X' : List Nat) : Prop where
  len : w.leaves.length ≤ w'.leaves.length
  cnt : ∀ l, X'.count l + (spawnRefs sink w').count l ≤ X.count l + (spawnRefs sink w).count l + fresh w w' l

theorem Le.refl (sink : Sink) (w : World) (X : List Nat) : Le sink w X w X :=
  ⟨Nat.le_refl _, fun _ => Nat.le_add_right _ _⟩

theorem fresh_add (w1 w2 w3 : World) (h12 : w1.leaves.length ≤ w2.leaves.length) (h23 : w2.leaves.length ≤ w3.leaves.length)
    (l : Nat) : fresh w1 w2 l + fresh w2 w3 l = fresh w1 w3 l := by
  unfold fresh
  by_cases a : w1.leaves.length ≤ l <;> by_cases b : l < w2.leaves.length <;> by_cases c : l < w3.leaves.length <;>
    by_cases d : w2.leaves.length ≤ l <;> simp [a, b, c, d] <;> omega

theorem Le.trans {sink : Sink} {w1 w2 w3 : World} {X1 X2 X3 : List Nat} (h12 : Le sink w1 X1 w2 X2)
    (h23 : Le sink w2 X2 w3 X3) : Le sink w1 X1 w3 X3 := by
  refine ⟨Nat.le_trans h12.len h23.len, ?_⟩
  intro l
  have a := h12.cnt l
  have b := h23.cnt l
  have c := fresh_add w1 w2 w3 h12.len h23.len l
  omega

theorem Le.frame {sink : Sink} {w w' : World} {X X' : List Nat} (h : Le sink w X w' X') (Y Z : List Nat) :
    Le sink w (Y ++ X ++ Z) w' (Y ++ X' ++ Z) := by
  refine ⟨h.len, ?_⟩
  intro l
  have := h.cnt l
  simp only [List.count_append]
  omega

theorem Le.drop {sink : Sink} {w w' : World} {X X' X'' : List Nat} (h : Le sink w X w' X')
    (hs : ∀ l, X''.count l ≤ X'.count l) : Le sink w X w' X'' := by
  refine ⟨h.len, ?_⟩
  intro l
  have := h.cnt l
  have := hs l
  omega

theorem Le.of_same {sink : Sink} {w w' : World} (X : List Nat) (hs : spawnRefs sink w' = spawnRefs sink w)
    (hl : w'.leaves.length = w.leaves.length) : Le sink w X w' X := by
  refine ⟨by rw [hl]; exact Nat.le_refl _, ?_⟩
  intro l; rw [hs]; exact Nat.le_add_right _ _

theorem sr_of_cmds {sink : Sink} {w w' : World} (hc : w'.cmds = w.cmds) (he : w'.execSpawn = w.execSpawn) :
    spawnRefs sink w' = spawnRefs sink w := by
  cases sink with
  | cmd c => simp only [spawnRefs, World.cmd, hc]
  | core => simp only [spawnRefs, he]

theorem sr_modLeaf (sink : Sink) (w : World) (l : Nat) (f : Leaf → Leaf) : spawnRefs sink (w.modLeaf l f) = spawnRefs sink w :=
  sr_of_cmds rfl rfl
theorem sr_modMeta (sink : Sink) (w : World) (s : Nat) (f : Meta → Meta) : spawnRefs sink (w.modMeta s f) = spawnRefs sink w :=
  sr_of_cmds rfl rfl
theorem sr_newMeta (sink : Sink) (w : World) : spawnRefs sink w.newMeta.2 = spawnRefs sink w := sr_of_cmds rfl rfl
theorem sr_newLeaf (sink : Sink) (w : World) (wk : Option Waker) (lg : Bool) :
    spawnRefs sink (w.newLeaf wk lg).2 = spawnRefs sink w := sr_of_cmds rfl rfl
theorem sr_dropReceiver (sink : Sink) (w : World) (l : Nat) : spawnRefs sink (w.dropReceiver l) = spawnRefs sink w :=
  sr_of_cmds rfl rfl

theorem sr_modCmd (sink : Sink) (w : World) (c : Nat) (f : CmdSt → CmdSt) (hf : ∀ x, (f x).spawnQ = x.spawnQ) :
    spawnRefs sink (w.modCmd c f) = spawnRefs sink w := by
  cases sink with
  | cmd c' =>
    simp only [spawnRefs]
    by_cases h : c = c'
    · subst h; rw [World.cmd_modCmd_spawnQ_keep w c f hf]
    · rw [World.cmd_modCmd_other w c c' f h]
  | core => rfl

theorem sr_sinkEvent (sink s : Sink) (w : World) (e : Ev) : spawnRefs sink (w.sinkEvent s e) = spawnRefs sink w := by
  cases s with
  | cmd c => exact sr_modCmd sink w c _ (fun _ => rfl)
  | core => exact sr_of_cmds rfl rfl

theorem sr_sinkEffect (sink s : Sink) (w : World) (e : Eff) : spawnRefs sink (w.sinkEffect s e) = spawnRefs sink w := by
  cases s with
  | cmd c => exact sr_modCmd sink w c _ (fun _ => rfl)
  | core => exact sr_of_cmds rfl rfl

theorem sr_modCmd' (sink : Sink) (w : World) (c : Nat) (f : CmdSt → CmdSt) (hf : ∀ x, (f x).spawnQ = x.spawnQ)
    {R : List Nat} (h : spawnRefs sink w = R) : spawnRefs sink (w.modCmd c f) = R := (sr_modCmd sink w c f hf).trans h

theorem sr_World_wake (sink : Sink) (w : World) (wk : Waker) : spawnRefs sink (w.wake wk) = spawnRefs sink w :=
  World.wake_inv (J := fun w' => spawnRefs sink w' = spawnRefs sink w)
    (fun _ _ _ h => sr_modCmd' sink _ _ _ (by intro; rfl) h) (fun _ _ h => sr_modCmd' sink _ _ _ (by intro; rfl) h)
    (fun _ _ h => h) (fun _ _ h => h) (fun _ _ h => h) w wk rfl

theorem sr_abortCmd (sink : Sink) (w : World) (c : Nat) : spawnRefs sink (w.abortCmd c) = spawnRefs sink w :=
  World.abortCmd_inv (J := fun w' => spawnRefs sink w' = spawnRefs sink w) (fun _ _ h => h)
    (fun _ h => sr_modCmd' sink _ _ _ (by intro; rfl) h) (fun _ _ h => (sr_World_wake sink _ _).trans h) w rfl

theorem dropPend_same (sink : Sink) (dc : Nat → World → World) : (p : Pend) → (w : World) → hostFreeP p = true →
    spawnRefs sink (dropPend dc p w) = spawnRefs sink w ∧ (dropPend dc p w).leaves.length = w.leaves.length :=
  fun p w h => dropPend_hf_inv (J := fun w' => spawnRefs sink w' = spawnRefs sink w ∧ w'.leaves.length = w.leaves.length)
    (fun _ l hw => ⟨(sr_dropReceiver sink _ l).trans hw.1, (len_dropReceiver _ l).trans hw.2⟩) p w h ⟨rfl, rfl⟩

theorem World.dropBlock_same (sink : Sink) (w : World) (b : Block) (h : hostFreeB b = true) :
    spawnRefs sink (w.dropBlock b) = spawnRefs sink w ∧ (w.dropBlock b).leaves.length = w.leaves.length :=
  dropBlock_hf_inv (J := fun w' => spawnRefs sink w' = spawnRefs sink w ∧ w'.leaves.length = w.leaves.length)
    (fun _ l hw => ⟨(sr_dropReceiver sink _ l).trans hw.1, (len_dropReceiver _ l).trans hw.2⟩) b w h ⟨rfl, rfl⟩

end M.Rt
