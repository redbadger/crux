/- Invariant and key lemmas of M.Slab: a key handed out by `insert` was not occupied, occupied keys keep their
   values across operations on other keys, a key is reused only after it was removed. -/
import CruxVerif.Model.Slab
namespace M.Slab
variable {α : Type}

/-- well-formedness: the free stack has no duplicates and lists only in-range, unoccupied keys -/
structure WF (s : Slab α) : Prop where
  nodup : s.free.Nodup
  vacant : ∀ k ∈ s.free, k < s.entries.length ∧ s.entries[k]? = some none

theorem wf_empty : WF (empty : Slab α) := ⟨by simp [empty], by simp [empty]⟩

theorem get?_set_self (l : List (Option α)) (k : Nat) (a : Option α) (h : k < l.length) : (l.set k a)[k]? = some a := by
  simp [h]

theorem get?_some_entry (s : Slab α) (k : Nat) (a : α) (h : s.get? k = some a) : s.entries[k]? = some (some a) := by
  unfold get? at h
  cases he : s.entries[k]? with
  | none => simp [he] at h
  | some o => rw [he] at h; exact congrArg some h

theorem lt_of_get?_some {s : Slab α} {k : Nat} {a : α} (h : s.get? k = some a) : k < s.entries.length :=
  (List.getElem?_eq_some_iff.1 (get?_some_entry s k a h)).1

theorem insert_fresh (s : Slab α) (a : α) (h : WF s) : s.get? (s.insert a).1 = none := by
  unfold insert
  split
  · rename_i k rest hf
    have := h.vacant k (by simp [hf])
    simp [get?, this.2]
  · simp [get?]

theorem get_insert_self (s : Slab α) (a : α) (h : WF s) : (s.insert a).2.get? (s.insert a).1 = some a := by
  unfold insert
  split
  · rename_i k rest hf
    have := h.vacant k (by simp [hf])
    simp [get?, this.1]
  · simp [get?]

theorem get_insert_other (s : Slab α) (a : α) (k : Nat) (hk : k ≠ (s.insert a).1) :
    (s.insert a).2.get? k = s.get? k := by
  unfold insert at hk ⊢
  split
  · rename_i k' rest hf
    simp only [hf] at hk
    simp only [get?]
    rw [List.getElem?_set_ne (Ne.symm hk)]
  · rename_i hf
    simp only [hf] at hk
    simp only [get?]
    rcases Nat.lt_or_gt_of_ne hk with hlt | hgt
    · rw [List.getElem?_append_left hlt]
    · rw [List.getElem?_eq_none (by simp; omega), List.getElem?_eq_none (by omega)]

theorem wf_insert (s : Slab α) (a : α) (h : WF s) : WF (s.insert a).2 := by
  unfold insert
  split
  · rename_i k rest hf
    have hnd := h.nodup
    rw [hf] at hnd
    have hk_notin : k ∉ rest := (List.nodup_cons.mp hnd).1
    refine ⟨(List.nodup_cons.mp hnd).2, ?_⟩
    intro j hj
    have hjk : j ≠ k := fun e => hk_notin (e ▸ hj)
    have := h.vacant j (by simp [hf, hj])
    simp only [List.length_set]
    refine ⟨this.1, ?_⟩
    rw [List.getElem?_set_ne (Ne.symm hjk)]
    exact this.2
  · exact ⟨by simp, by simp⟩

theorem remove_get (s : Slab α) (k : Nat) (a : α) (hg : s.get? k = some a) :
    (s.remove k).1 = some a ∧ (s.remove k).2.get? k = none ∧ ∀ j, j ≠ k → (s.remove k).2.get? j = s.get? j := by
  unfold remove
  simp only [hg]
  have hlt := lt_of_get?_some hg
  refine ⟨trivial, by simp [get?, hlt], ?_⟩
  intro j hj
  simp only [get?]
  rw [List.getElem?_set_ne (Ne.symm hj)]

theorem remove_none (s : Slab α) (k : Nat) (hg : s.get? k = none) : s.remove k = (none, s) := by
  unfold remove; simp [hg]

theorem wf_remove (s : Slab α) (k : Nat) (h : WF s) : WF (s.remove k).2 := by
  unfold remove
  split
  · rename_i a hg
    have hlt := lt_of_get?_some hg
    have hk_notin : k ∉ s.free := by
      intro hin
      have := (h.vacant k hin).2
      simp [get?, this] at hg
    refine ⟨List.nodup_cons.mpr ⟨hk_notin, h.nodup⟩, ?_⟩
    intro j hj
    simp only [List.length_set]
    rcases List.mem_cons.mp hj with rfl | hj
    · exact ⟨hlt, by simp [hlt]⟩
    · have hjk : j ≠ k := fun e => hk_notin (e ▸ hj)
      have := h.vacant j hj
      refine ⟨this.1, ?_⟩
      rw [List.getElem?_set_ne (Ne.symm hjk)]
      exact this.2
  · exact h

theorem wf_set (s : Slab α) (k : Nat) (a : α) (h : WF s) : WF (s.set k a) := by
  unfold set
  split
  · rename_i x hg
    refine ⟨h.nodup, ?_⟩
    intro k' hk'
    have v := h.vacant k' hk'
    have hne : k ≠ k' := by
      intro e; subst e
      simp [get?, v.2] at hg
    simp only [List.length_set]
    exact ⟨v.1, by rw [List.getElem?_set_ne hne]; exact v.2⟩
  · exact h

theorem insert_ne_occupied (s : Slab α) (a : α) (k : Nat) (h : WF s) (hk : (s.get? k).isSome) : (s.insert a).1 ≠ k := by
  intro e
  have := insert_fresh s a h
  rw [e] at this
  simp [this] at hk

theorem get_of_remove {s s' : Slab α} {k : Nat} {a : α} (h : s.remove k = (some a, s')) :
    s.get? k = some a ∧ s' = (s.remove k).2 := by
  cases hg : s.get? k with
  | none => rw [remove_none s k hg] at h; cases h
  | some b => rw [← (remove_get s k b hg).1, h]; exact ⟨rfl, rfl⟩

theorem get_set (s : Slab α) (k j : Nat) (a : α) :
    (s.set k a).get? j = if j = k ∧ (s.get? k).isSome then some a else s.get? j := by
  unfold set
  split
  · rename_i x hg
    by_cases h : j = k
    · subst h
      have hlt : j < s.entries.length := by
        by_cases hlt : j < s.entries.length
        · exact hlt
        · simp [get?, List.getElem?_eq_none (Nat.le_of_not_lt hlt)] at hg
      rw [if_pos ⟨rfl, by rw [hg]; rfl⟩]
      simp only [get?]; rw [get?_set_self _ _ _ hlt]; rfl
    · simp only [get?, h, false_and, if_false]; rw [List.getElem?_set_ne (Ne.symm h)]
  · rename_i hg
    simp [hg]

theorem get_set_other (s : Slab α) (k j : Nat) (a : α) (h : j ≠ k) : (s.set k a).get? j = s.get? j := by
  rw [get_set, if_neg (fun e => h e.1)]

end M.Slab
