/-
Channel ownership and hosting order under the CORE host (QueuingExecutor + CommandSpawner + legacy capability tasks):
the invariant `CInv` over every reachable state of a Core running an app whose commands have host-free task bodies
and whose legacy capability tasks are host-free.
-/
import CruxVerif.Lemmas.CoreFrame
namespace M.Rt

def ecnt (l : Nat) (ts : List ExecTask) : Nat := (ts.map fun t => (execRefs t).count l).sum

/-- references to leaf `l` held by the executor's tasks and its spawn queue -/
def E (l : Nat) (k : Core) : Nat := ecnt l k.execTasks.values + ecnt l k.w.execSpawn

def progHF (prog : List (Nat × Cmd × List (List Instr))) : Prop :=
  ∀ p ∈ prog, cmdHF p.2.1 = true ∧ ∀ is ∈ p.2.2, hostFreeIs is = true

structure CInv (k : Core) : Prop where
  hl : HL k.w
  th : ∀ t ∈ k.execTasks.values, execHF t = true
  sh : ∀ t ∈ k.w.execSpawn, execHF t = true
  bound : ∀ l, G l k.w + E l k ≤ bnd k.w l
  ph : progHF k.prog

/-- `CInv.bound` with the measures written out: over all commands, the executor's tasks and its spawn queue, a channel
    that exists is referenced at most once and one that does not exist not at all -/
theorem CInv.unshared {k : Core} (h : CInv k) (l : Nat) :
    (k.w.cmds.map (cmdCnt l)).sum + ecnt l k.execTasks.values + ecnt l k.w.execSpawn
      ≤ (if l < k.w.leaves.length then 1 else 0) := by
  have := h.bound l
  unfold E bnd G at this
  omega

theorem count_spawnRefs_core (l : Nat) (w : World) : (spawnRefs .core w).count l = ecnt l w.execSpawn := by
  unfold spawnRefs ecnt
  simp only
  induction w.execSpawn with
  | nil => rfl
  | cons t ts ih => simp only [List.map_cons, List.flatten_cons, List.count_append, List.sum_cons, ih]

theorem G_of_T {w w' : World} (h : T w' = T w) (l : Nat) : G l w' = G l w := by
  have key : ∀ W : World, G l W = ((T W).map fun p => cnt l p.1.values + cnt l p.2).sum := by
    intro W
    unfold G T
    rw [List.map_map]
    rfl
  rw [key, key, h]

/-- a step of the world alone that `CInv` survives -/
structure CStep (w w' : World) : Prop where
  hl : HL w'
  g : GLe w [] w' []
  es : w'.execSpawn = w.execSpawn

theorem CStep.refl {w : World} (hw : HL w) : CStep w w := ⟨hw, GLe.refl w [], rfl⟩

theorem CStep.step {w w1 w2 : World} (k : CStep w w1) (h : HL w1 → CStep w1 w2) : CStep w w2 :=
  ⟨(h k.hl).hl, k.g.trans (h k.hl).g, (h k.hl).es.trans k.es⟩

theorem CStep.of_same {w w' : World} (hw : HL w) (f : TK0 w w') (hg : ∀ l, G l w' = G l w)
    (hlen : w'.leaves.length = w.leaves.length) (hs : w'.execSpawn = w.execSpawn) : CStep w w' :=
  ⟨hw.tk0 f, GLe.of_same [] hg hlen, hs⟩

theorem CInv.world {k : Core} (h : CInv k) {w' : World} (s : CStep k.w w') : CInv { k with w := w' } := by
  refine ⟨s.hl, h.th, by simp only [s.es]; exact h.sh, ?_, h.ph⟩
  intro l
  have a := s.g.cnt l
  simp only [List.count_nil, Nat.zero_add] at a
  have b := fresh_bnd k.w w' s.g.len l _ (h.bound l)
  unfold E at b ⊢
  simp only [s.es]
  omega

theorem CInv.same {k : Core} (h : CInv k) (w' : World) (f : TK0 k.w w') (hg : ∀ l, G l w' = G l k.w)
    (hlen : w'.leaves.length = k.w.leaves.length) (hs : w'.execSpawn = k.w.execSpawn) : CInv { k with w := w' } :=
  h.world (CStep.of_same h.hl f hg hlen hs)

theorem pollNext_g : PnG pollNext := pollNextF_g _ runUntilSettled_hl runUntilSettled_g

theorem spawnerLoop_c (f etid cid : Nat) (w : World) (d : Bool) (w' : World) (h : spawnerLoop f etid cid w = some (d, w'))
    (hw : HL w) : CStep w w' := by
  refine spawnerLoop_inv (J := CStep w) ?_ ?_ ?_ ?_ f w d w' h (CStep.refl hw)
  · exact fun w1 r w2 hp k => k.step fun h1 =>
      ⟨(pollNext_hl _ _ _ _ _ hp h1).1, pollNext_g _ _ _ _ _ hp h1, es_of_X (pollNext_x _ _ _ _ _ hp)⟩
  · exact fun w1 e k => k.step fun h1 => CStep.of_same h1 (tk_of_cmds rfl) (fun _ => G_of_cmds rfl) rfl rfl
  · exact fun w1 e k => k.step fun h1 => CStep.of_same h1 (tk_of_cmds rfl) (fun _ => G_of_cmds rfl) rfl rfl
  · exact fun w1 k => k.step fun h1 =>
      ⟨(World_dropCmd_hl w1 cid h1).1, (dec_World_dropCmd w1 cid).toGLe [], es_of_X (X_World_dropCmd w1 cid)⟩

theorem pollAt_core (wk : Waker) (b : Block) (w : World) (r : PollRes) (w' : World)
    (h : pollAt depthFuel wk .core b w = some (r, w')) (hf : hostFreeB b = true) :
    TK0 w w' ∧ T w' = T w ∧ Le .core w (refsB b) w' (resRefs r) ∧ XH w w' ∧ hfRes r := by
  have h' := h
  rw [pollAt_depthFuel] at h'
  have l := pollBlock_lgood _ _ _ _ _ _ _ _ h' hf
  have c := pollBlock_cgood _ _ _ _ _ _ _ h' hf
  exact ⟨pollBlock_tgood _ _ _ _ _ _ _ _ _ h' hf (fun _ _ hc => by cases hc), c.1, l.1, c.2.xh, l.2⟩

theorem ecnt_values_remove (l : Nat) (s : Slab ExecTask) (etid : Nat) (t : ExecTask) (h : s.get? etid = some t) :
    ecnt l (s.remove etid).2.values + (execRefs t).count l = ecnt l s.values :=
  Slab.sum_remove (fun t => (execRefs t).count l) s etid t h

theorem ecnt_values_set (l : Nat) (s : Slab ExecTask) (etid : Nat) (t t' : ExecTask) (h : s.get? etid = some t) :
    ecnt l (s.set etid t').values + (execRefs t).count l = ecnt l s.values + (execRefs t').count l :=
  Slab.sum_set (fun t => (execRefs t).count l) s etid t t' h

theorem ecnt_values_insert (l : Nat) (s : Slab ExecTask) (t : ExecTask) :
    ecnt l (s.insert t).2.values ≤ ecnt l s.values + (execRefs t).count l :=
  Slab.sum_insert_le (fun t => (execRefs t).count l) s t

theorem CInv.remove {k : Core} (h : CInv k) (etid : Nat) (t : ExecTask) (hg : k.execTasks.get? etid = some t) :
    CInv { k with execTasks := (k.execTasks.remove etid).2 } := by
  refine ⟨h.hl, fun t ht => h.th t (Slab.mem_values_remove _ _ _ ht), h.sh, ?_, h.ph⟩
  intro l
  have a := ecnt_values_remove l k.execTasks etid t hg
  have b := h.bound l
  unfold E at b ⊢
  simp only
  omega

/-- The executor has polled its legacy task `b` and now stores `ts`.  The poll is linear in the channels (`Le`): what the
    block held is held by its continuation or by the tasks it spawned, so if `ts` trades `b` for the continuation the
    bound is kept. -/
theorem CInv.polled {k : Core} (hk : CInv k) {wk : Waker} {b : Block} {r : PollRes} {w' : World}
    (hp : pollAt depthFuel wk .core b k.w = some (r, w')) (hfb : hostFreeB b = true) {ts : Slab ExecTask}
    (hth : hfRes r → ∀ t ∈ ts.values, execHF t = true)
    (hcnt : ∀ l, ecnt l ts.values + (refsB b).count l = ecnt l k.execTasks.values + (resRefs r).count l) :
    CInv { k with w := w', execTasks := ts } := by
  obtain ⟨f1, f2, f3, f4, f5⟩ := pollAt_core _ _ _ _ _ hp hfb
  refine ⟨hk.hl.tk0 f1, hth f5, fun t ht => (f4 t ht).elim (hk.sh t) id, ?_, hk.ph⟩
  intro l
  have a := hcnt l
  have b1 := hk.bound l
  have c := f3.cnt l
  rw [count_spawnRefs_core, count_spawnRefs_core] at c
  have d := fresh_bnd k.w w' f3.len l _ b1
  unfold E at b1 d ⊢
  simp only [G_of_T f2 l] at d ⊢
  omega

theorem execRunTask_c (etid : Nat) (k : Core) (st : RunTask) (k' : Core) (h : execRunTask etid k = some (st, k'))
    (hk : CInv k) : CInv k' := by
  refine execRunTask_ind (Q := fun _ k' => CInv k') (fun _ => hk)
    (fun cid w hg hs => (hk.world (spawnerLoop_c _ _ _ _ _ _ hs hk.hl)).remove etid _ hg)
    (fun cid w _ hs => hk.world (spawnerLoop_c _ _ _ _ _ _ hs hk.hl))
    (fun b env w hg hp => hk.polled hp (hk.th (.legacy b) (Slab.mem_values_of_get _ _ _ hg))
      (fun _ t ht => hk.th t (Slab.mem_values_remove _ _ _ ht)) (fun l => ecnt_values_remove l k.execTasks etid _ hg))
    (fun b b' w hg hp => hk.polled hp (hk.th (.legacy b) (Slab.mem_values_of_get _ _ _ hg)) (fun f5 t ht => ?_)
      (fun l => ecnt_values_set l k.execTasks etid _ (.legacy b') hg)) h
  rcases Slab.mem_values_set _ _ _ _ ht with rfl | h
  · exact f5
  · exact hk.th t h

theorem CInv.of_fields {k k' : Core} (h : CInv k) (hc : k'.w.cmds = k.w.cmds) (hl : k'.w.leaves = k.w.leaves)
    (hs : k'.w.execSpawn = k.w.execSpawn) (ht : k'.execTasks = k.execTasks) (hp : k'.prog = k.prog) : CInv k' := by
  refine ⟨h.hl.tk0 (tk_of_cmds hc), by rw [ht]; exact h.th, by rw [hs]; exact h.sh, ?_, by rw [hp]; exact h.ph⟩
  intro l
  have b := h.bound l
  unfold E bnd at *
  rw [G_of_cmds (w := k.w) hc, hs, ht, hl]
  exact b

theorem CInv.adopt {k : Core} (hk : CInv k) {t : ExecTask} {rest : List ExecTask} (hsp : k.w.execSpawn = t :: rest) :
    CInv { k with w := { k.w with execSpawn := rest }, execTasks := (k.execTasks.insert t).2 } := by
  have ht : execHF t = true := hk.sh t (by rw [hsp]; simp)
  refine ⟨hk.hl.tk0 (tk_of_cmds rfl), ?_, ?_, ?_, hk.ph⟩
  · intro x hx
    rcases Slab.mem_values_insert _ _ _ hx with rfl | hx
    · exact ht
    · exact hk.th x hx
  · intro x hx
    exact hk.sh x (by rw [hsp]; simp [hx])
  · intro l
    have a := ecnt_values_insert l k.execTasks t
    have b := hk.bound l
    unfold E bnd at *
    rw [hsp] at b
    simp only [ecnt, List.map_cons, List.sum_cons] at a b ⊢
    have : G l ({ k.w with execSpawn := rest } : World) = G l k.w := G_of_cmds rfl
    rw [this]
    omega

theorem runAll_c : ∀ (f : Nat) (k k' : Core), runAll f k = some k' → CInv k → CInv k' :=
  runAll_inv
    (execDrainSpawn_inv fun _ _ _ _ _ hk hs hr => execRunTask_c _ _ _ _ hr (hk.adopt hs))
    (execDrainReady_inv fun _ _ _ _ _ hk _ hr => execRunTask_c _ _ _ _ hr (hk.of_fields rfl rfl rfl rfl rfl))

theorem X_newCmd (env : Env) (is : List Instr) (w : World) : X (newCmd env is w).2 = X w := rfl

theorem X_instantiate (env : Env) : (c : Cmd) → (w : World) → X (instantiate env c w).2 = X w :=
  fun c w => instantiate_inv (J := fun w' => X w' = X w) (fun env is _ h => (X_newCmd env is _).trans h) (fun _ _ _ _ h => h)
    (fun _ _ h => h) env c w rfl

theorem X_instantiateAll (env : Env) : (cs : List Cmd) → (w : World) → X (instantiateAll env cs w).2 = X w :=
  fun cs w => instantiateAll_inv (J := fun w' => X w' = X w) (fun env is _ h => (X_newCmd env is _).trans h) (fun _ _ _ _ h => h)
    (fun _ _ h => h) env cs w rfl

theorem ecnt_append (l : Nat) (a b : List ExecTask) : ecnt l (a ++ b) = ecnt l a + ecnt l b := by
  simp [ecnt, List.map_append, List.sum_append]

theorem ecnt_idle (l : Nat) (env : Env) (ls : List (List Instr)) :
    ecnt l (ls.map fun is => ExecTask.legacy (.mk env .idle is)) = 0 := by
  induction ls with
  | nil => rfl
  | cons a as ih =>
    simp only [ecnt, List.map_cons, List.sum_cons, execRefs, refs_idle, List.count_nil, Nat.zero_add] at ih ⊢
    exact ih

theorem G_set_execSpawn (l : Nat) (w : World) (xs : List ExecTask) : G l ({ w with execSpawn := xs } : World) = G l w :=
  G_of_cmds rfl

theorem update_body_c (k : Core) (ev : Ev) (env : Env) (cmd : Cmd) (ls : List (List Instr)) (hk : CInv k)
    (hc : cmdHF cmd = true) (hls : ∀ is ∈ ls, hostFreeIs is = true) :
    CInv { k with
      w := { (instantiate env cmd { k.w with execSpawn := k.w.execSpawn ++ ls.map fun is => ExecTask.legacy (.mk env .idle is) }).2 with
        execSpawn := (instantiate env cmd { k.w with execSpawn := k.w.execSpawn ++ ls.map fun is => ExecTask.legacy (.mk env .idle is) }).2.execSpawn ++
          [.cmd (instantiate env cmd { k.w with execSpawn := k.w.execSpawn ++ ls.map fun is => ExecTask.legacy (.mk env .idle is) }).1] },
      log := k.log ++ [ev] } := by
  generalize hw0 : ({ k.w with execSpawn := k.w.execSpawn ++ ls.map fun is => ExecTask.legacy (.mk env .idle is) } : World) = w0
  have hl0 : HL w0 := by subst hw0; exact hk.hl.tk0 (tk_of_cmds rfl)
  have bi := instantiate_built env cmd w0 hc hl0
  have di := dec_instantiate env cmd w0
  have xi := es_of_X (X_instantiate env cmd w0)
  have hes : w0.execSpawn = k.w.execSpawn ++ ls.map fun is => ExecTask.legacy (.mk env .idle is) := by subst hw0; rfl
  have hle : w0.leaves = k.w.leaves := by subst hw0; rfl
  have hg0 : ∀ l, G l w0 = G l k.w := by intro l; subst hw0; exact G_of_cmds rfl
  refine ⟨bi.hl.tk0 (tk_of_cmds rfl), hk.th, ?_, ?_, hk.ph⟩
  · intro t ht
    simp only [List.mem_append, List.mem_singleton] at ht
    rcases ht with ht | rfl
    · rw [xi, hes] at ht
      simp only [List.mem_append, List.mem_map] at ht
      rcases ht with ht | ⟨is, his, rfl⟩
      · exact hk.sh t ht
      · simp [execHF, hostFreeB, hostFreeP, hls is his]
    · rfl
  · intro l
    have b := hk.bound l
    have d := di.g l
    have dl := di.len
    unfold E bnd at *
    simp only [xi, hes, ecnt_append, ecnt_idle, dl, hle, G_set_execSpawn]
    rw [hg0] at d
    have : ecnt l [ExecTask.cmd (instantiate env cmd w0).1] = 0 := by simp [ecnt, execRefs]
    omega

theorem update_c (ev : Ev) (k : Core) (hk : CInv k) : CInv (update ev k) := by
  rcases update_cases ev k with ⟨_, c, ls, hm, e⟩ | e <;> rw [e]
  · exact update_body_c k ev _ c ls hk (hk.ph _ hm).1 (hk.ph _ hm).2
  · exact update_body_c k ev _ .done [] hk rfl (by intro _ h; cases h)

theorem process_c (k : Core) (es : List Eff) (k' : Core) (h : process k = some (es, k')) (hk : CInv k) : CInv k' :=
  process_inv runAll_c
    (processLoop_inv (fun _ ev _ hk _ => update_c ev _ (hk.of_fields rfl rfl rfl rfl rfl)) runAll_c)
    (fun _ hk => hk.of_fields rfl rfl rfl rfl rfl) k es k' h hk

theorem processEvent_c (ev : Ev) (k : Core) (es : List Eff) (k' : Core) (h : processEvent ev k = some (es, k'))
    (hk : CInv k) : CInv k' := process_c _ _ _ h (update_c ev k hk)

theorem X_deliver (w : World) (l : Nat) (v : Val) : X (w.deliver l v) = X w :=
  World.deliver_inv (J := fun w1 => X w1 = X w) (fun _ h => h) (fun w1 wk h => (X_World_wake w1 wk).trans h) w rfl

theorem X_resolveReq (r : Resolve) (v : Val) (w : World) : X (resolveReq r v w).2.2 = X w :=
  resolveReq_inv (J := fun w1 => X w1 = X w) (fun w1 l v _ h => (X_deliver w1 l v).trans h)
    (fun w1 l h => (X_dropSender w1 l).trans h) r v w rfl

theorem X_shell (w : World) : M.Hosts.ShellOps fun w1 => X w1 = X w :=
  ⟨fun w1 r v h => (X_resolveReq r v w1).trans h, fun w1 l h => (X_dropSender w1 l).trans h,
    fun w1 n h => M.Hosts.doAbort_inv (fun W c k => (X_abortCmd W c).trans k) n w1 h⟩

theorem X_dropReq (r : Resolve) (w : World) : X (dropReq r w).2 = X w := (X_shell w).dropReq w r rfl

end M.Rt

namespace M.Hosts
open M.Rt

theorem X_doAbort (n : Nat) (w : World) : X (doAbort n w) = X w := (X_shell w).ab w n rfl

theorem CInv_ops : CoreOps CInv where
  pe := processEvent_c
  pr := process_c
  res := fun k r v hk => hk.same _ (tk0_resolveReq r v k.w) (fun l => G_resolveReq l r v k.w) (len_resolveReq r v k.w)
    (es_of_X (X_resolveReq r v k.w))
  ds := fun k l hk => hk.same _ (tk0_dropSender k.w l) (fun x => G_dropSender x k.w l) (len_dropSender k.w l)
    (es_of_X (X_dropSender k.w l))
  ab := fun k n hk => doAbort_inv (J := fun w => CInv { k with w := w }) (fun w c h =>
    h.same _ (tk_abortCmd w c) (fun l => G_abortCmd l w c) (len_abortCmd w c) (es_of_X (X_abortCmd w c))) n k.w hk

theorem CInv_init (prog : Prog) (hp : progHF prog) : CInv ({ prog := prog } : Core) := by
  refine ⟨HL_empty, ?_, ?_, ?_, hp⟩
  · intro t ht; cases ht
  · intro t ht; cases ht
  · intro l; exact Nat.zero_le _

/-- **The hosting order and channel ownership hold in every state a Core reaches.** For every app whose commands have
    host-free task bodies (any nesting of combinators) and whose legacy capability tasks are host-free, after every history
    of events, resolutions, drops, aborts and probes: hosted commands sit below their hosts, and — summed over all commands,
    the executor's tasks and its spawn queue — every request channel is referenced by at most one suspended or queued task. -/
theorem runCore_c (prog : Prog) (hp : progHF prog) (canon : Bool) (acts : List Action) (os : List Obs) (h : CoreHost)
    (hr : runCore prog canon acts = some (os, h)) : CInv h.k :=
  runCore_inv CInv_ops prog (CInv_init prog hp) canon acts os h hr

end M.Hosts
