/-
What the frames of one poll, the executor and the shell are made of: how the elementary steps act on one leaf, on a
join-handle waker queue (`JW`) and on a ready queue (`RD`); the drop of a host-free block leaves alone every leaf the
block does not reference.
-/
import CruxVerif.Lemmas.RRun
namespace M.Rt

theorem pleaf_of_leaves {w w' : World} (h : w'.leaves = w.leaves) (l : Nat) : w'.leaf l = w.leaf l := by simp [World.leaf, h]

theorem pleaf_abortCmd (w : World) (c : Nat) (l : Nat) : (w.abortCmd c).leaf l = w.leaf l :=
  (World.abortCmd_frame w c).2.2.2.2.2.2.2.2 l

theorem leaves_modLeaf {Q : Leaf → Prop} {w : World} (h : ∀ l, Q (w.leaf l)) (l : Nat) (f : Leaf → Leaf)
    (hf : Q (w.leaf l) → Q (f (w.leaf l))) (l' : Nat) : Q ((w.modLeaf l f).leaf l') := by
  rw [World.leaf_modLeaf]
  split
  · rename_i e; obtain ⟨rfl, _⟩ := e; exact hf (h l)
  · exact h l'

theorem leaf_modLeaf_keep {β : Type} (g : Leaf → β) (w : World) (l : Nat) (f : Leaf → Leaf) (hf : ∀ x, g (f x) = g x) (l' : Nat) :
    g ((w.modLeaf l f).leaf l') = g (w.leaf l') := by
  rw [World.leaf_modLeaf]
  split
  · exact hf _
  · rfl

theorem pleaf_dropBlock (dc : Nat → World → World) (l0 : Nat) (b : Block) (w : World) (h : hostFreeB b = true) (hn : l0 ∉ refsB b) :
    (dropBlock dc b w).leaf l0 = w.leaf l0 :=
  dropBlock_refs_ind (fun W => W.leaf l0 = w.leaf l0) dc b w h
    (fun W l hl hW => (leaf_modLeaf_other W l l0 _ fun e => hn (e ▸ hl)).trans hW) rfl

theorem pleaf_dropPend (dc : Nat → World → World) (l0 : Nat) : (p : Pend) → (w : World) → hostFreeP p = true → l0 ∉ refsP p →
    (dropPend dc p w).leaf l0 = w.leaf l0 := by
  intro p w h hn
  have := pleaf_dropBlock dc l0 (.mk {} p []) w (by simp [hostFreeB, hostFreeIs, h]) (by simpa [refsB] using hn)
  simpa [dropBlock] using this

/-! refs in the form `grind` uses -/
theorem rfB_eq (env : Env) (cur : Pend) (rest : List Instr) : refsB (.mk env cur rest) = refsP cur := by simp [refsB]
theorem rfP_idle : refsP .idle = [] := by simp [refsP]

/-- `k` is queued at join handle `s` -/
def JW (s : Nat) (k : Waker) (w : World) : Prop := k ∈ (w.getMeta s).joinWakers
/-- `x` is on the ready queue of `c` -/
def RD (c x : Nat) (w : World) : Prop := x ∈ (w.cmd c).ready

theorem getMeta_of_metas {w w' : World} (h : w'.metas = w.metas) (s : Nat) : w'.getMeta s = w.getMeta s := by simp [World.getMeta, h]
theorem cmd_of_cmds {w w' : World} (h : w'.cmds = w.cmds) (c : Nat) : w'.cmd c = w.cmd c := by simp [World.cmd, h]

section
variable {s : Nat} {k : Waker} {c x : Nat} {w : World}

theorem jw_of_metas {w' : World} (h : w'.metas = w.metas) (hj : JW s k w) : JW s k w' := by unfold JW at *; rw [getMeta_of_metas h]; exact hj
theorem rd_of_cmds {w' : World} (h : w'.cmds = w.cmds) (hr : RD c x w) : RD c x w' := by unfold RD at *; rw [cmd_of_cmds h]; exact hr

theorem jw_newMeta (h : JW s k w) : JW s k w.newMeta.2 := by
  unfold JW at *
  rw [World.getMeta_newMeta]; exact h
theorem jw_modMeta (s' : Nat) (f : Meta → Meta) (hf : ∀ m, k ∈ m.joinWakers → k ∈ (f m).joinWakers) (h : JW s k w) :
    JW s k (w.modMeta s' f) := by
  unfold JW at *
  rw [World.getMeta_modMeta]
  split
  · exact hf _ h
  · exact h
theorem jw_abortCmd (c' : Nat) (h : JW s k w) : JW s k (w.abortCmd c') :=
  World.abortCmd_inv (J := JW s k) (fun _ _ h => jw_modMeta _ _ (fun _ hk => hk) h) (fun _ h => jw_of_metas rfl h)
    (fun _ _ h => jw_of_metas (wake_metas _ _ _) h) w h

theorem rd_modLeaf (l : Nat) (f : Leaf → Leaf) (h : RD c x w) : RD c x (w.modLeaf l f) := rd_of_cmds rfl h
theorem rd_modMeta (l : Nat) (f : Meta → Meta) (h : RD c x w) : RD c x (w.modMeta l f) := rd_of_cmds rfl h
theorem rd_modCmd_keep (c' : Nat) (f : CmdSt → CmdSt) (hf : ∀ y, (f y).ready = y.ready) (h : RD c x w) : RD c x (w.modCmd c' f) := by
  unfold RD at *
  rw [World.cmd_modCmd_keep (·.ready) hf]; exact h
theorem rd_dropBlock (b : Block) (hb : hostFreeB b = true) (h : RD c x w) : RD c x (w.dropBlock b) :=
  rd_of_cmds (cmds_dropBlock _ b w hb) h
end

theorem rd_wake (c x : Nat) (f : Nat) (wk : Waker) (w : World) (h : RD c x w) : RD c x (wake f wk w) := by
  refine wake_inv (J := RD c x) (fun w c' tid h => ?_) (fun w c' h => rd_modCmd_keep c' _ (fun _ => rfl) h)
    (fun _ _ h => rd_of_cmds rfl h) (fun _ _ h => rd_of_cmds rfl h) (fun _ _ h => rd_of_cmds rfl h) f wk w h
  unfold RD at *
  rcases World.cmd_modCmd_cases w c' (fun x => { x with ready := x.ready ++ [tid] }) c with e | e <;> rw [e]
  · exact h
  · exact List.mem_append_left _ h

theorem rd_World_wake {c x : Nat} {w : World} (wk : Waker) (h : RD c x w) : RD c x (w.wake wk) := rd_wake c x _ wk w h
theorem rd_abortCmd {c x : Nat} {w : World} (c' : Nat) (h : RD c x w) : RD c x (w.abortCmd c') :=
  World.abortCmd_inv (J := RD c x) (fun _ _ h => rd_modMeta _ _ h) (fun _ h => rd_modCmd_keep c' _ (fun _ => rfl) h)
    (fun _ wk h => rd_World_wake wk h) w h

end M.Rt
