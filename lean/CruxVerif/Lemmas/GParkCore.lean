/-
Global parking in a world of several flat commands: while one command runs, the tasks of every OTHER command keep their
status (queued / aborted / live-parked).  `RunInv` is the invariant of one command's run that says so, next to the parking
of the command's own tasks and the bound on references to each channel; it is carried through `run_until_settled`.
-/
import CruxVerif.Lemmas.GPark
namespace M.Rt

/-- tasks of `c'` and of the polled task of `cid` reference different channels -/
def Disj (w : World) (cid tid c' : Nat) : Prop :=
  ∀ t, (w.cmd cid).tasks.get? tid = some t → ∀ tid' t', (w.cmd c').tasks.get? tid' = some t' → ∀ l ∈ refsB t'.fut, l ∉ refsB t.fut

theorem runTask_gpo (cid tid : Nat) (w : World) (st : TaskState) (w' : World) (h : runTask cid tid w = some (st, w'))
    (hft : ∀ t ∈ (w.cmd cid).tasks.values, hostFreeB t.fut = true) (hwf : WFw w) (c' : Nat) (hne : c' ≠ cid)
    (hd : Disj w cid tid c') (hg : GP c' none w) : GP c' none w' ∧ (w'.cmd c').tasks = (w.cmd c').tasks := by
  rw [runTask_eq] at h
  -- the poll: `c'` keeps its slab, and each of its tasks its status, since they reference other channels
  have poll : ∀ pn f t r w1, (w.cmd cid).tasks.get? tid = some t →
      pollBlock pn f (.task cid tid w.nextSerial) (.cmd cid) t.fut { w with nextSerial := w.nextSerial + 1 } = some (r, w1) →
      GP c' none w1 ∧ (w1.cmd c').tasks = (w.cmd c').tasks := by
    intro pn f t r w1 hget hp
    have htf := hft t (Slab.mem_values_of_get _ _ _ hget)
    have et : (w1.cmd c').tasks = (w.cmd c').tasks :=
      ((pollBlock_qs _ _ _ _ _ _ _ _ hp htf).other c' (fun e => hne (Option.some.inj e))).1
    refine ⟨fun tid' t' hg' hx => ?_, et⟩
    rw [et] at hg'
    exact Pk.poll hp htf (hwf.t c' t' (Slab.mem_values_of_get _ _ _ hg')) (hd t hget tid' t' hg')
      ((hg tid' t' hg' hx).of_same rfl rfl fun _ hx => hx)
  refine runTaskF_ind (Q := fun _ w' => GP c' none w' ∧ (w'.cmd c').tasks = (w.cmd c').tasks) (fun _ => ⟨hg, rfl⟩)
    (fun _ _ _ => ⟨hg, rfl⟩) (fun t _ w1 hget _ hp => poll _ _ t _ w1 hget hp) (fun t b w1 hget _ hp => ?_) h
  obtain ⟨pg, pt⟩ := poll _ _ t _ w1 hget hp
  -- storing the continuation changes `cid` alone, and `woken`: invisible to `c'`
  have ec : (parkTask cid tid t w.nextSerial b w1).cmd c' = w1.cmd c' := World.cmd_modCmd_other w1 cid c' _ (Ne.symm hne)
  have fin : GP c' none (parkTask cid tid t w.nextSerial b w1) ∧
      ((parkTask cid tid t w.nextSerial b w1).cmd c').tasks = (w.cmd c').tasks :=
    ⟨fun tid' t' hg' hx => by
      rw [ec] at hg'; exact (pg tid' t' hg' hx).of_same rfl rfl (fun x hx' => by rw [ec]; exact hx'), by rw [ec]; exact pt⟩
  exact ⟨fun _ _ => fin, fun _ => fin⟩

theorem finishTask_gpo (cid tid : Nat) (w : World) (hfc : HFc cid w) (c' : Nat) (hne : c' ≠ cid)
    (hal : (w.cmd c').alive = true) (hin : c' < w.cmds.length) (hg : GP c' none w) :
    GP c' none (finishTask cid tid w) ∧ ((finishTask cid tid w).cmd c').tasks = (w.cmd c').tasks := by
  have q := (finishTask_q cid tid w hfc).1
  have et := (q.other c' (fun e => hne (Option.some.inj e))).1
  refine ⟨?_, et⟩
  intro tid' t' hg' hx
  rw [et] at hg'
  exact (hg tid' t' hg' hx).finishTask cid tid hfc.t hal hin

theorem spawnNewTasks_gpo (cid : Nat) (w : World) (c' : Nat) (hne : c' ≠ cid) (hg : GP c' none w) :
    GP c' none (spawnNewTasks cid w) ∧ ((spawnNewTasks cid w).cmd c').tasks = (w.cmd c').tasks := by
  obtain ⟨hl, hm, hc⟩ := spawnNewTasks_frame cid w
  refine ⟨fun tid' t' hg' hx => ?_, by rw [hc c' hne]⟩
  rw [hc c' hne] at hg'
  exact (hg tid' t' hg' hx).of_same hl hm (fun x hx' => by rw [hc c' hne]; exact hx')

mutual
theorem hostsLtB_of_free (p : Nat) : (b : Block) → hostFreeB b = true → hostsLtB p b = true
  | .mk _ cur rest, hf => by
    simp only [hostFreeB, Bool.and_eq_true] at hf
    simp only [hostsLtB, Bool.and_eq_true]
    exact ⟨hostsLtP_of_free p cur hf.1, hostsLtIs_of_free p rest hf.2⟩
theorem hostsLtP_of_free (p : Nat) : (c : Pend) → hostFreeP c = true → hostsLtP p c = true
  | .idle, _ | .reqDead, _ | .await _, _ | .selfwake _, _ | .req _ _, _ => by simp [hostsLtP]
  | .streamWait _ _ _ _ body, hf => by simp only [hostFreeP] at hf; simp only [hostsLtP]; exact hostsLtIs_of_free p body hf
  | .streamBody _ _ _ _ body inner, hf => by
    simp only [hostFreeP, Bool.and_eq_true] at hf
    simp only [hostsLtP, Bool.and_eq_true]
    exact ⟨hostsLtIs_of_free p body hf.1, hostsLtB_of_free p inner hf.2⟩
  | .join a b _ _, hf | .select a b, hf => by
    simp only [hostFreeP, Bool.and_eq_true] at hf
    simp only [hostsLtP, Bool.and_eq_true]
    exact ⟨hostsLtB_of_free p a hf.1, hostsLtB_of_free p b hf.2⟩
  | .host _ _, hf => by simp [hostFreeP] at hf
end

theorem HL_of_hf {w : World} (h : ∀ c, HFc c w) : HL w :=
  ⟨fun q t ht => hostsLtB_of_free q _ ((h q).t t ht), fun q t ht => hostsLtB_of_free q _ ((h q).s t ht)⟩

theorem count_le_cmdCnt (l : Nat) (x : CmdSt) (tid : Nat) (t : Task) (h : x.tasks.get? tid = some t) :
    (taskRefs t).count l ≤ cmdCnt l x := by
  unfold cmdCnt cnt
  have r := Slab.sum_remove (fun t => (taskRefs t).count l) x.tasks tid t h
  omega

theorem disj_of_bound (w : World) (cid tid c' : Nat) (hne : c' ≠ cid) (hb : ∀ l, G l w ≤ 1) : Disj w cid tid c' := by
  intro t hg tid' t' hg' l hl hl2
  have a := count_le_cmdCnt l (w.cmd cid) tid t hg
  have b := count_le_cmdCnt l (w.cmd c') tid' t' hg'
  have c := cmdCnt2_le_G l w cid c' (Ne.symm hne)
  have c1 : 0 < (taskRefs t).count l := List.count_pos_iff.mpr hl2
  have c2 : 0 < (taskRefs t').count l := List.count_pos_iff.mpr hl
  have := hb l
  omega

/-- the loop invariant of a command's run inside a flat Core -/
structure RunInv (cid : Nat) (e : Nat → Nat) (ex : Option Nat) (w : World) : Prop where
  gb : ∀ l, G l w + e l ≤ bnd w l
  sok : SOk w
  wfw : WFw w
  hfa : ∀ c, HFc c w
  alive : (w.cmd cid).alive = true
  inr : cid < w.cmds.length
  swf : Slab.WF (w.cmd cid).tasks
  gp : GP cid ex w
  gpo : ∀ c', c' ≠ cid → (w.cmd c').alive = true → c' < w.cmds.length → GP c' none w

theorem bnd_le_one (w : World) (l : Nat) : bnd w l ≤ 1 := by unfold bnd; split <;> omega

theorem RunInv.own {cid : Nat} {e : Nat → Nat} {ex : Option Nat} {w : World} (h : RunInv cid e ex w) : Own cid w :=
  Own.of_bound (h.hfa cid).t (h.hfa cid).s (fun l => by have := cmdCnt_le_G l w cid; have := h.gb l; omega)

theorem RunInv.ctx {cid : Nat} {e : Nat → Nat} {ex : Option Nat} {w : World} (h : RunInv cid e ex w) : Ctx cid w :=
  ⟨h.own, h.sok, h.wfw, h.alive, h.inr⟩

theorem RunInv.g1 {cid : Nat} {e : Nat → Nat} {ex : Option Nat} {w : World} (h : RunInv cid e ex w) (l : Nat) : G l w ≤ 1 := by
  have := h.gb l; have := bnd_le_one w l; omega

theorem RunInv.gb_step {cid : Nat} {e : Nat → Nat} {ex : Option Nat} {w w' : World} (h : RunInv cid e ex w)
    (g : GLe w [] w' []) : ∀ l, G l w' + e l ≤ bnd w' l := by
  intro l
  have a := g.cnt l
  simp only [List.count_nil, Nat.zero_add] at a
  have b := fresh_bnd w w' g.len l _ (h.gb l)
  omega

theorem RunInv.pop {cid : Nat} {e : Nat → Nat} {w : World} (h : RunInv cid e none w) (tid : Nat) (rest : List Nat)
    (hrd : (w.cmd cid).ready = tid :: rest) : RunInv cid e (some tid) (w.modCmd cid fun c => { c with ready := rest }) := by
  have q0 : QS (some cid) w (w.modCmd cid fun c => { c with ready := rest }) :=
    QS.modCmd_me w cid _ (fun _ => rfl) (fun _ => rfl) (fun _ => rfl)
  have hsk : SOkN w.nextSerial (w.modCmd cid fun c => { c with ready := rest }) := SOkN.modCmd h.sok cid _ fun _ hx => hx
  have e0t : ((w.modCmd cid fun c => { c with ready := rest }).cmd cid).tasks = (w.cmd cid).tasks :=
    cmd_modCmd_keep (·.tasks) w cid _ fun _ => rfl
  refine ⟨fun l => ?_, (SOk.step (w1 := w.modCmd cid fun c => { c with ready := rest }) h.sok rfl hsk).1,
    h.wfw.modCmd_same cid _ (fun _ => rfl) (fun _ => rfl), fun c => ?_, by rw [q0.alive cid]; exact h.alive,
    by rw [q0.len]; exact h.inr, by rw [e0t]; exact h.swf, h.gp.pop h.inr hrd, fun c' hne hal hin => ?_⟩
  · have hg : G l (w.modCmd cid fun c => { c with ready := rest }) = G l w := G_modCmd_same l w cid _ (fun _ => rfl) (fun _ => rfl)
    rw [hg]; exact h.gb l
  · by_cases ec : cid = c
    · subst ec; exact (h.hfa cid).modCmd _ (fun _ _ h => Or.inl h) (fun _ _ h => Or.inl h)
    · exact (h.hfa c).of_qs q0 ec
  · have ec : (w.modCmd cid fun c => { c with ready := rest }).cmd c' = w.cmd c' := World.cmd_modCmd_other w cid c' _ (Ne.symm hne)
    rw [ec] at hal
    rw [q0.len] at hin
    intro tid' t' hg' hx
    rw [ec] at hg'
    exact (h.gpo c' hne hal hin tid' t' hg' hx).of_same rfl rfl (fun x hx' => by rw [ec]; exact hx')

/-- what one `run_task` leaves, before the executor finishes a completed / cancelled task -/
theorem RunInv.afterRun {cid : Nat} {e : Nat → Nat} {w0 : World} {tid : Nat} (h : RunInv cid e (some tid) w0) (st : TaskState)
    (w1 : World) (hrt : runTask cid tid w0 = some (st, w1)) :
    SOk w1 ∧ WFw w1 ∧ (∀ c, HFc c w1) ∧ (w1.cmd cid).alive = true ∧ cid < w1.cmds.length ∧ Slab.WF (w1.cmd cid).tasks ∧
    GP cid (some tid) w1 ∧ (st = .suspended → ∀ t, (w1.cmd cid).tasks.get? tid = some t → Pk cid w1 tid t) ∧
    (st = .missing → (w1.cmd cid).tasks.get? tid = none) ∧
    (∀ c', c' ≠ cid → (w1.cmd c').alive = true → c' < w1.cmds.length → GP c' none w1) ∧
    RunPostG cid tid st w0 w1 ∧ HL w1 ∧ RunPost cid tid st w1 := by
  have c0 := h.ctx
  have g := runTask_gp cid tid w0 st w1 hrt c0 h.gp
  have q := runTaskF_q _ _ cid tid w0 st w1 (by rw [← runTask_eq]; exact hrt) (h.hfa cid)
  have o := runTaskF_own _ _ cid tid w0 st w1 (by rw [← runTask_eq]; exact hrt) h.own
  have hl0 := HL_of_hf h.hfa
  have hfa1 : ∀ c, HFc c w1 := by
    intro c
    by_cases ec : cid = c
    · subst ec; exact q.2
    · exact (h.hfa c).of_qs q.1 ec
  refine ⟨(runTask_ok cid tid w0 st w1 hrt h.sok).1, (runTask_w cid tid w0 st w1 hrt h.wfw).1, hfa1,
    by rw [q.1.alive cid]; exact h.alive, by rw [q.1.len]; exact h.inr,
    runTask_swf cid tid w0 st w1 hrt (h.hfa cid).t h.inr h.swf, g.1, g.2.1, g.2.2, ?_, runTask_g cid tid w0 st w1 hrt hl0,
    HL_of_hf hfa1, o⟩
  intro c' hne hal hin
  rw [q.1.alive c'] at hal
  rw [q.1.len] at hin
  exact (runTask_gpo cid tid w0 st w1 hrt (h.hfa cid).t h.wfw c' hne (disj_of_bound w0 cid tid c' hne h.g1)
    (h.gpo c' hne hal hin)).1

theorem RunInv.keep {cid : Nat} {e : Nat → Nat} {w0 : World} {tid : Nat} (h : RunInv cid e (some tid) w0) (st : TaskState)
    (w1 : World) (hrt : runTask cid tid w0 = some (st, w1)) (hst : st = .missing ∨ st = .suspended) : RunInv cid e none w1 := by
  obtain ⟨a1, a2, a3, a4, a5, a6, a7, a8, a9, a10, a11, _, _⟩ := h.afterRun st w1 hrt
  have gle : GLe w0 [] w1 [] := by
    rcases hst with rfl | rfl <;> exact a11.afterRun
  refine ⟨h.gb_step gle, a1, a2, a3, a4, a5, a6, ?_, a10⟩
  intro tid' t' hg' _
  by_cases et : tid' = tid
  · subst et
    rcases hst with rfl | rfl
    · rw [a9 rfl] at hg'; cases hg'
    · exact a8 rfl t' hg'
  · exact a7 tid' t' hg' (fun e' => et (Option.some.inj e'))

theorem RunInv.finish {cid : Nat} {e : Nat → Nat} {w0 : World} {tid : Nat} (h : RunInv cid e (some tid) w0) (st : TaskState)
    (w1 : World) (hrt : runTask cid tid w0 = some (st, w1)) (hst : st = .completed ∨ st = .cancelled) :
    RunInv cid e none (finishTask cid tid w1) := by
  obtain ⟨a1, a2, a3, a4, a5, a6, a7, _, _, a10, a11, a12, a13⟩ := h.afterRun st w1 hrt
  have q := finishTask_q cid tid w1 (a3 cid)
  have hfa2 : ∀ c, HFc c (finishTask cid tid w1) := by
    intro c
    by_cases ec : cid = c
    · subst ec; exact q.2
    · exact (a3 c).of_qs q.1 ec
  have gle : GLe w0 [] (finishTask cid tid w1) [] := by
    rcases hst with rfl | rfl <;> exact a11.afterRun
  refine ⟨h.gb_step gle, (finishTask_keeps cid tid w1 a1).1, (finishTask_w cid tid w1 a2).1, hfa2,
    by rw [q.1.alive cid]; exact a4, by rw [q.1.len]; exact a5, finishTask_swf cid tid w1 a5 (a3 cid).t a6,
    finishTask_gp cid tid w1 a4 a5 (a3 cid).t a7, ?_⟩
  intro c' hne hal hin
  rw [q.1.alive c'] at hal
  rw [q.1.len] at hin
  exact (finishTask_gpo cid tid w1 (a3 cid) c' hne hal hin (a10 c' hne hal hin)).1

theorem drainReady_ri (cid : Nat) (e : Nat → Nat) : ∀ (f : Nat) (w w' : World), drainReady runTask f cid w = some w' →
    RunInv cid e none w → RunInv cid e none w' :=
  drainReady_ind fun w tid rest st w1 hw hrd hrt => by
    have h0 := hw.pop tid rest hrd
    cases st
    · exact h0.keep _ w1 hrt (Or.inl rfl)
    · exact h0.keep _ w1 hrt (Or.inr rfl)
    · exact h0.finish _ w1 hrt (Or.inl rfl)
    · exact h0.finish _ w1 hrt (Or.inr rfl)

theorem RunInv.spawn {cid : Nat} {e : Nat → Nat} {w : World} (h : RunInv cid e none w) : RunInv cid e none (spawnNewTasks cid w) := by
  have q := spawnNewTasks_q cid w (h.hfa cid)
  have sp := spawnNewTasks_gp cid none w h.inr h.swf h.gp
  have hfa' : ∀ c, HFc c (spawnNewTasks cid w) := by
    intro c
    by_cases ec : cid = c
    · subst ec; exact q.2
    · exact (h.hfa c).of_qs q.1 ec
  refine ⟨h.gb_step ((dec_spawnNewTasks cid w).toGLe []), (spawnNewTasks_keeps cid w h.sok).1, (spawnNewTasks_w cid w h.wfw).1, hfa',
    by rw [q.1.alive cid]; exact h.alive, by rw [q.1.len]; exact h.inr, sp.2, sp.1, ?_⟩
  intro c' hne hal hin
  rw [q.1.alive c'] at hal
  rw [q.1.len] at hin
  exact (spawnNewTasks_gpo cid w c' hne (h.gpo c' hne hal hin)).1

/-- **Running a command never strands another command's tasks.** In a world of commands without combinators in which
    every request channel has at most one waiting task (`gb`), settling the un-aborted command `cid` — polling its tasks,
    finishing them, waking join handles, spawning — keeps the whole invariant: in particular every stored task of every
    OTHER live command is still queued, aborted or live-parked afterwards (`gpo`), and so is every task of `cid` (`gp`). -/
theorem runUntilSettled_ri (cid : Nat) (e : Nat → Nat) (w w' : World) (h : runUntilSettled cid w = some w')
    (hna : w.aborted cid = false) (hw : RunInv cid e none w) : RunInv cid e none w' := by
  unfold runUntilSettled runUntilSettledF at h
  simp only [hna, Bool.false_eq_true, if_false] at h
  exact settleLoop_inv (fun _ hw => hw.spawn) (drainReady_ri cid e) _ w w' h hw

end M.Rt

namespace M.Hosts
open M.Rt

theorem RunInv_init (is : List Instr) (hf : hostFreeIs is = true) (canon : Bool) :
    RunInv (Direct.new (.task is) canon).cid (fun _ => 0) none (Direct.new (.task is) canon).w := by
  have g := GInv_init is hf canon
  have hlen : (Direct.new (.task is) canon).w.cmds.length = 1 := by
    unfold Direct.new; simp [instantiate, newCmd, World.newMeta]
  have hcid : (Direct.new (.task is) canon).cid = 0 := by
    unfold Direct.new; simp [instantiate, newCmd, World.newMeta]
  refine ⟨?_, g.ctx.sok, g.ctx.wfw, ?_, g.ctx.alive, g.ctx.inr, g.swf, g.gp, ?_⟩
  · intro l
    have hb := g.ctx.own.bound l
    have : G l (Direct.new (.task is) canon).w = cmdCnt l ((Direct.new (.task is) canon).w.cmd (Direct.new (.task is) canon).cid) := by
      rw [hcid]
      unfold G World.cmd
      generalize hL : (Direct.new (.task is) canon).w.cmds = L at hlen
      match L, hlen with
      | [x], _ => simp
    omega
  · intro c
    by_cases ec : c = (Direct.new (.task is) canon).cid
    · rw [ec]; exact g.ctx.own.hfc
    · have : (Direct.new (.task is) canon).w.cmd c = {} := by
        unfold World.cmd
        rw [List.getElem?_eq_none (by rw [hlen]; rw [hcid] at ec; omega)]; rfl
      exact ⟨by rw [this]; intro t ht; simp [Slab.values] at ht, by rw [this]; intro t ht; cases ht⟩
  · intro c' hne _ hin
    rw [hlen] at hin; rw [hcid] at hne; omega

end M.Hosts
