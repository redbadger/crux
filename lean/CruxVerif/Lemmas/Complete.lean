/-
Completeness of eviction, one operation of the executor at a time: what `run_task`, `finishTask` and `spawnNewTasks` do,
beside keeping the context `Ctx` (GPark.lean), to `Sat`/`SPS`, `NAb` (nothing is aborted), `WOwn` and `NDS`.
-/
import CruxVerif.Lemmas.NoReg
namespace M.Rt

/-- the four ways `run_task` ends (`runTaskF_ind`), as one disjunction to take apart with `rcases` -/
theorem runTaskF_inv {poll : Waker → Sink → Block → World → Option (PollRes × World)} {c tid : Nat} {w : World}
    {st : TaskState} {w' : World} (h : runTaskF poll c tid w = some (st, w')) :
    ((w.cmd c).tasks.get? tid = none ∧ st = .missing ∧ w' = w) ∨
    ∃ t, (w.cmd c).tasks.get? tid = some t ∧
      (((w.getMeta t.serial).aborted = true ∧ st = .completed ∧ w' = w) ∨
       (∃ env, poll (.task c tid w.nextSerial) (.cmd c) t.fut { w with nextSerial := w.nextSerial + 1 } = some (.ready env, w') ∧
          st = .completed) ∨
       ∃ b w1, poll (.task c tid w.nextSerial) (.cmd c) t.fut { w with nextSerial := w.nextSerial + 1 } = some (.pending b, w1) ∧
          w' = { (w1.modCmd c fun x => { x with tasks := x.tasks.set tid { t with fut := b } }) with
            woken := w1.woken.filter (· != w.nextSerial) } ∧
          st = if !w1.woken.contains w.nextSerial && w'.holders w.nextSerial == 0 then .cancelled else .suspended) := by
  refine runTaskF_ind (Q := fun st w' => ((w.cmd c).tasks.get? tid = none ∧ st = .missing ∧ w' = w) ∨
    ∃ t, (w.cmd c).tasks.get? tid = some t ∧
      (((w.getMeta t.serial).aborted = true ∧ st = .completed ∧ w' = w) ∨
       (∃ env, poll (.task c tid w.nextSerial) (.cmd c) t.fut { w with nextSerial := w.nextSerial + 1 } = some (.ready env, w') ∧
          st = .completed) ∨
       ∃ b w1, poll (.task c tid w.nextSerial) (.cmd c) t.fut { w with nextSerial := w.nextSerial + 1 } = some (.pending b, w1) ∧
          w' = parkTask c tid t w.nextSerial b w1 ∧
          st = if !w1.woken.contains w.nextSerial && w'.holders w.nextSerial == 0 then .cancelled else .suspended))
    (fun hg => Or.inl ⟨hg, rfl, rfl⟩) (fun t hg ha => Or.inr ⟨t, hg, Or.inl ⟨ha, rfl, rfl⟩⟩)
    (fun t env w1 hg _ hp => Or.inr ⟨t, hg, Or.inr (Or.inl ⟨env, hp, rfl⟩)⟩) (fun t b w1 hg _ hp => ⟨fun h1 h2 => ?_, fun hn => ?_⟩) h
  · exact Or.inr ⟨t, hg, Or.inr (Or.inr ⟨b, w1, hp, rfl, by rw [h1, h2]; rfl⟩)⟩
  · refine Or.inr ⟨t, hg, Or.inr (Or.inr ⟨b, w1, hp, rfl, (if_neg fun hc => hn ?_).symm⟩)⟩
    simpa using hc

/-- every stored task of `c` satisfies `p`, every member of its spawn queue `q` -/
structure Sat (p q : Task → Prop) (c : Nat) (w : World) : Prop where
  t : ∀ t ∈ (w.cmd c).tasks.values, p t
  s : ∀ t ∈ (w.cmd c).spawnQ, q t

theorem tk_dropTask {New : Nat → Task → Prop} (w : World) (t : Task) (ht : hostFreeB t.fut = true) : TKp New w (w.dropTask t) :=
  TKp.trans (w2 := w.modMeta t.serial fun m => { m with taskAlive := false, joinWakers := [] }) (tk_of_cmds rfl)
    (tk_World_dropBlock _ t.fut ht)

section
variable {p q : Task → Prop} {c : Nat} {w w' : World}

theorem Sat.tk (h : Sat p q c w) (f : TKp (fun _ t => q t) w w') : Sat p q c w' :=
  ⟨fun t ht => h.t t (by rw [← f.tasks c]; exact ht), fun t ht => (f.spawn c t ht).elim (h.s t) id⟩

theorem Sat.tk0 (h : Sat p q c w) (f : TK0 w w') : Sat p q c w' := h.tk (f.imp fun _ _ x => x.elim)

theorem Sat.modCmd (h : Sat p q c w) (g : CmdSt → CmdSt)
    (hgt : ∀ x, ∀ t ∈ (g x).tasks.values, t ∈ x.tasks.values ∨ p t)
    (hgs : ∀ x, ∀ t ∈ (g x).spawnQ, t ∈ x.spawnQ ∨ q t) : Sat p q c (w.modCmd c g) := by
  cases hc : w.cmds[c]? with
  | none => exact ⟨by rw [cmd_modCmd_out w c g hc]; exact h.t, by rw [cmd_modCmd_out w c g hc]; exact h.s⟩
  | some x =>
    have e := (cmd_modCmd_in w c g x hc).1
    exact ⟨fun t ht => (hgt _ t (by rw [← e]; exact ht)).elim (h.t t) id,
      fun t ht => (hgs _ t (by rw [← e]; exact ht)).elim (h.s t) id⟩

theorem Sat.run {pn : Waker → Nat → World → Option (NextRes × World)} {f tid : Nat} {st : TaskState} (h : Sat p q c w)
    (hrt : runTaskF (pollBlock pn f) c tid w = some (st, w'))
    (good : ∀ t r w1, (w.cmd c).tasks.get? tid = some t →
      pollBlock pn f (.task c tid w.nextSerial) (.cmd c) t.fut { w with nextSerial := w.nextSerial + 1 } = some (r, w1) →
      TKp (fun _ t => q t) { w with nextSerial := w.nextSerial + 1 } w1 ∧ ∀ b, r = .pending b → p { t with fut := b }) :
    Sat p q c w' := by
  rcases runTaskF_inv hrt with ⟨_, _, rfl⟩ | ⟨t, hg, ⟨_, _, rfl⟩ | ⟨env, hp, _⟩ | ⟨b, w1, hp, rfl, _⟩⟩
  · exact h
  · exact h
  all_goals
    have h0 : Sat p q c { w with nextSerial := w.nextSerial + 1 } := h.tk0 (tk_of_cmds rfl)
    have g := good t _ _ hg hp
  · exact h0.tk g.1
  · have h2 : Sat p q c (w1.modCmd c fun x => { x with tasks := x.tasks.set tid { t with fut := b } }) :=
      (h0.tk g.1).modCmd _
        (fun x t' ht' => (Slab.mem_values_set _ _ _ _ ht').elim (fun e => Or.inr (e ▸ g.2 b rfl)) Or.inl)
        fun _ _ ht => Or.inl ht
    exact h2.tk0 (tk_of_cmds rfl)

theorem Sat.finish {tid : Nat} (h : Sat p q c w) (hw : HFc c w) : Sat p q c (finishTask c tid w) := by
  cases hg : (w.cmd c).tasks.get? tid with
  | none => rw [finishTask_none hg]; exact h
  | some t =>
    rw [finishTask_some hg]
    have h1 : Sat p q c (w.modCmd c fun x => { x with tasks := ((w.cmd c).tasks.remove tid).2 }) :=
      h.modCmd _ (fun _ t' ht' => Or.inr (h.t t' (Slab.mem_values_remove _ _ _ ht'))) fun _ _ ht => Or.inl ht
    refine Sat.tk0 ?_ (tk_dropTask _ t (hw.t t (Slab.mem_values_of_get _ _ _ hg)))
    refine Sat.tk0 ?_ (tk0_wakeAll _ _)
    exact h1.tk0 (tk_of_cmds rfl)

theorem Sat.spawn (h : Sat p q c w) (hqp : ∀ t, q t → p t) : Sat p q c (spawnNewTasks c w) := by
  refine spawnNewTasks_inv (J := Sat p q c) (h.modCmd _ (fun _ _ ht => Or.inl ht) fun _ _ ht => nomatch ht) ?_
  intro W t ht hW
  refine hW.modCmd _ ?_ fun _ _ ht => Or.inl ht
  intro x t' ht'
  exact (Slab.mem_values_insert _ _ _ ht').elim (fun e => Or.inr (e ▸ hqp t (h.s t ht))) Or.inl
end

/-- stored tasks are simpleS; tasks waiting to be spawned are simpleS and reference no channel -/
abbrev SPS : Nat → World → Prop := Sat (fun t => simpleSB t.fut = true) fun t => simpleSB t.fut = true ∧ refsB t.fut = []

/-- every stored and every queued task of command `c` is simple -/
structure SPc (c : Nat) (w : World) : Prop where
  t : ∀ t ∈ (w.cmd c).tasks.values, simpleB t.fut = true
  s : ∀ t ∈ (w.cmd c).spawnQ, simpleB t.fut = true

section
variable {pn : Waker → Nat → World → Option (NextRes × World)} {f c tid : Nat} {w : World} {st : TaskState} {w' : World}

theorem SPS.run (hs : SPS c w) (hw : HFc c w) (h : runTaskF (pollBlock pn f) c tid w = some (st, w')) : SPS c w' :=
  Sat.run hs h fun t r w1 hg hp =>
    have hm := Slab.mem_values_of_get _ _ _ hg
    have g := pollBlock_ssgood pn _ f _ _ _ _ _ _ hp (hw.t t hm) (hs.t t hm) (TKp.refl _)
    ⟨g.1, fun b e => by subst e; exact g.2⟩

theorem runTaskF_nas (h : runTaskF (pollBlock pn f) c tid w = some (st, w')) (hw : HFc c w) (hs : SPS c w) (hq : NAb w) :
    NAb w' := by
  rcases runTaskF_inv h with ⟨_, _, rfl⟩ | ⟨t, hg, ⟨_, _, rfl⟩ | ⟨env, hp, _⟩ | ⟨b, w1, hp, rfl, _⟩⟩
  · exact hq
  · exact hq
  all_goals
    have hm := Slab.mem_values_of_get _ _ _ hg
    have q1 := pollBlock_nasgood pn f _ _ _ _ _ _ hp (hw.t t hm) (hs.t t hm) (hq.of_same rfl rfl)
  · exact q1
  · exact q1.of_same rfl rfl
end

theorem dropTask_na (w : World) (t : Task) (ht : hostFreeB t.fut = true) (hq : NAb w) : NAb (w.dropTask t) :=
  nab_dropBlock (w := w.modMeta t.serial fun m => { m with taskAlive := false, joinWakers := [] }) t.fut ht
    (nab_modMeta _ _ (fun _ hm => hm) hq)

theorem finishTask_na (c tid : Nat) (w : World) (hw : HFc c w) (hq : NAb w) : NAb (finishTask c tid w) :=
  finishTask_inv (J := NAb) (fun _ _ h => nab_modCmd _ _ h) (fun _ _ h => nab_modMeta _ _ (fun _ hm => hm) h)
    (fun _ k h => nab_wake k h) (fun _ t hg h => dropTask_na _ t (hw.t t (Slab.mem_values_of_get _ _ _ hg)) h) hq

theorem spawnNewTasks_na (c : Nat) (w : World) (hq : NAb w) : NAb (spawnNewTasks c w) :=
  spawnNewTasks_inv (nab_modCmd _ _ hq) (fun _ _ _ h => nab_modCmd _ _ h)


theorem runTaskF_frame (pn) (f : Nat) (c tid : Nat) (w : World) (st : TaskState) (w' : World)
    (h : runTaskF (pollBlock pn f) c tid w = some (st, w')) (hw : HFc c w) :
    (∀ tid', tid' ≠ tid → (w'.cmd c).tasks.get? tid' = (w.cmd c).tasks.get? tid') ∧ (∀ x, RD c x w → RD c x w') := by
  have poll : ∀ t r w1, (w.cmd c).tasks.get? tid = some t →
      pollBlock pn f (.task c tid w.nextSerial) (.cmd c) t.fut { w with nextSerial := w.nextSerial + 1 } = some (r, w1) →
      (w1.cmd c).tasks = (w.cmd c).tasks ∧ ∀ x, RD c x w → RD c x w1 := by
    intro t r w1 hg hp
    have htf := hw.t t (Slab.mem_values_of_get _ _ _ hg)
    exact ⟨(pollBlock_tgood pn f (fun _ t => hostFreeB t.fut = true) _ _ _ _ _ _ hp htf (fun _ _ _ x => x)).tasks c,
      fun x hx => (pollBlock_jrgood pn 0 (.root 0) c x f _ _ _ _ _ _ hp htf).2 (rd_of_cmds (w := w) rfl hx)⟩
  rcases runTaskF_inv h with ⟨_, _, rfl⟩ | ⟨t, hg, ⟨_, _, rfl⟩ | ⟨env, hp, _⟩ | ⟨b, w1, hp, rfl, _⟩⟩
  · exact ⟨fun _ _ => rfl, fun _ hx => hx⟩
  · exact ⟨fun _ _ => rfl, fun _ hx => hx⟩
  · obtain ⟨pt, pr⟩ := poll t _ _ hg hp
    exact ⟨fun _ _ => by rw [pt], pr⟩
  · obtain ⟨pt, pr⟩ := poll t _ _ hg hp
    refine ⟨fun tid' hne => ?_, fun x hx => rd_of_cmds (w := w1.modCmd c _) rfl (rd_modCmd_keep c _ (fun _ => rfl) (pr x hx))⟩
    show ((w1.modCmd c fun x => { x with tasks := x.tasks.set tid { t with fut := b } }).cmd c).tasks.get? tid' = _
    rw [cmd_modCmd_of_get w1 c tid t _ (by rw [pt]; exact hg), ← pt]
    exact Slab.get_set_other _ _ _ _ hne

theorem runTaskF_missing_gone (poll) (c tid : Nat) (w w' : World) (h : runTaskF poll c tid w = some (.missing, w')) :
    (w'.cmd c).tasks.get? tid = none := by
  rcases runTaskF_inv h with ⟨hg, _, rfl⟩ | ⟨t, _, ⟨_, e, _⟩ | ⟨_, _, e⟩ | ⟨b, w1, _, _, e⟩⟩
  · exact hg
  · cases e
  · cases e
  · split at e <;> cases e

theorem runTaskF_suspended {poll : Waker → Sink → Block → World → Option (PollRes × World)} {c tid : Nat} {w w' : World}
    (h : runTaskF poll c tid w = some (.suspended, w')) :
    ∃ t b w1, (w.cmd c).tasks.get? tid = some t ∧
      poll (.task c tid w.nextSerial) (.cmd c) t.fut { w with nextSerial := w.nextSerial + 1 } = some (.pending b, w1) ∧
      w' = { (w1.modCmd c fun x => { x with tasks := x.tasks.set tid { t with fut := b } }) with
        woken := w1.woken.filter (· != w.nextSerial) } ∧
      (w1.woken.contains w.nextSerial = true ∨ w'.holders w.nextSerial ≠ 0) := by
  rcases runTaskF_inv h with ⟨_, e, _⟩ | ⟨t, hg, ⟨_, e, _⟩ | ⟨_, _, e⟩ | ⟨b, w1, hp, hw', e⟩⟩
  · cases e
  · cases e
  · cases e
  · refine ⟨t, b, w1, hg, hp, hw', ?_⟩
    split at e
    · cases e
    · rename_i hc
      cases hk : w1.woken.contains w.nextSerial with
      | true => exact Or.inl rfl
      | false =>
        refine Or.inr fun h0 => hc ?_
        rw [hk, h0]; rfl

theorem finishTask_frame (c tid : Nat) (w : World) (hw : HFc c w) :
    (∀ tid' t', ((finishTask c tid w).cmd c).tasks.get? tid' = some t' → (w.cmd c).tasks.get? tid' = some t' ∧ tid' ≠ tid) ∧
    (∀ x, RD c x w → RD c x (finishTask c tid w)) := by
  cases hg : (w.cmd c).tasks.get? tid with
  | none =>
    rw [finishTask_none hg]
    exact ⟨fun tid' t' h => ⟨h, fun e => by rw [e, hg] at h; cases h⟩, fun _ hx => hx⟩
  | some t =>
    rw [finishTask_some hg]
    have htf := hw.t t (Slab.mem_values_of_get _ _ _ hg)
    constructor
    · intro tid' t' hg'
      rw [(tk_dropTask (New := fun _ _ => False) _ t htf).tasks c, (tk0_wakeAll _ _).tasks c] at hg'
      change ((w.modCmd c fun x => { x with tasks := ((w.cmd c).tasks.remove tid).2 }).cmd c).tasks.get? tid' = some t' at hg'
      rw [cmd_modCmd_of_get w c tid t _ hg] at hg'
      have rg := Slab.remove_get _ _ _ hg
      by_cases e : tid' = tid
      · subst e; rw [show ((w.cmd c).tasks.remove tid').2.get? tid' = none from rg.2.1] at hg'; cases hg'
      · rw [show ((w.cmd c).tasks.remove tid).2.get? tid' = _ from rg.2.2 tid' e] at hg'; exact ⟨hg', e⟩
    · intro x hx
      unfold World.dropTask M.Rt.dropTask
      exact rd_dropBlock t.fut htf (rd_modMeta _ _ (rd_wakeAll _ _ (rd_modMeta _ _ (rd_modCmd_keep c _ (fun _ => rfl) hx))))

end M.Rt

namespace M.Slab
theorem get_insert_key {α : Type} (s : Slab α) (a t : α) (h : (s.insert a).2.get? (s.insert a).1 = some t) : t = a := by
  unfold Slab.insert at h
  split at h
  · rename_i k rest hf
    simp only [Slab.get?] at h
    by_cases hk : k < s.entries.length
    · rw [List.getElem?_set_self hk] at h; simpa using h.symm
    · rw [List.getElem?_eq_none (by simp; omega)] at h; simp at h
  · simp only [Slab.get?] at h
    rw [List.getElem?_append_right (Nat.le_refl _)] at h
    simpa using h.symm
end M.Slab

namespace M.Rt

theorem spawnNewTasks_get (c : Nat) (w : World) (hin : c < w.cmds.length) :
    ∀ tid t, ((spawnNewTasks c w).cmd c).tasks.get? tid = some t →
      ((w.cmd c).tasks.get? tid = some t ∧ (tid ∈ (w.cmd c).ready → tid ∈ ((spawnNewTasks c w).cmd c).ready)) ∨
      (t ∈ (w.cmd c).spawnQ ∧ tid ∈ ((spawnNewTasks c w).cmd c).ready) := by
  refine (spawnNewTasks_inv (cid := c) (w := w) (J := fun W => c < W.cmds.length ∧ ∀ tid t, (W.cmd c).tasks.get? tid = some t →
      ((w.cmd c).tasks.get? tid = some t ∧ (tid ∈ (w.cmd c).ready → tid ∈ (W.cmd c).ready)) ∨
      (t ∈ (w.cmd c).spawnQ ∧ tid ∈ (W.cmd c).ready)) ?_ ?_).2
  · refine ⟨by simp only [World.modCmd, modifyNth_length]; exact hin, ?_⟩
    rw [cmd_modCmd_lt hin]
    exact fun _ _ h => Or.inl ⟨h, id⟩
  · rintro W a ha ⟨hW, hJ⟩
    refine ⟨by simp only [World.modCmd, modifyNth_length]; exact hW, ?_⟩
    rw [cmd_modCmd_lt hW]
    intro tid t h
    by_cases e : tid = ((W.cmd c).tasks.insert a).1
    · rw [e] at h ⊢
      rw [Slab.get_insert_key _ _ _ h]
      exact Or.inr ⟨ha, List.mem_append_right _ (List.mem_singleton.2 rfl)⟩
    · rw [show ((W.cmd c).tasks.insert a).2.get? tid = _ from Slab.get_insert_other _ _ _ e] at h
      exact (hJ tid t h).imp (fun ⟨h1, h2⟩ => ⟨h1, fun hx => List.mem_append_left _ (h2 hx)⟩)
        fun ⟨h1, h2⟩ => ⟨h1, List.mem_append_left _ h2⟩


/-- a channel created since `w0` holds the waker `wk` or none -/
def NW (w0 : World) (wk : Waker) (w : World) : Prop :=
  ∀ l, w0.leaves.length ≤ l → (w.leaf l).waker = some wk ∨ (w.leaf l).waker = none

theorem NW.of_leaves {w0 : World} {wk : Waker} {w w' : World} (h : NW w0 wk w) (hl : w'.leaves = w.leaves) : NW w0 wk w' := by
  intro l hl0; rw [pleaf_of_leaves hl]; exact h l hl0

section
variable {w0 : World} {wk : Waker} {w : World}
theorem NW.modLeaf (h : NW w0 wk w) (l : Nat) (f : Leaf → Leaf)
    (hf : ∀ x, (f x).waker = x.waker ∨ (f x).waker = some wk ∨ (f x).waker = none) : NW w0 wk (w.modLeaf l f) := by
  intro l' hl'
  by_cases e : l = l'
  · subst e
    rw [World.leaf_modLeaf_self]
    cases hl : w.leaves[l]? with
    | none => right; rfl
    | some x =>
      simp only
      have := h l hl'
      rw [leaf_of_get hl] at this
      rcases hf x with h1 | h1 | h1
      · rw [h1]; exact this
      · exact Or.inl h1
      · exact Or.inr h1
  · rw [leaf_modLeaf_other w l l' f e]; exact h l' hl'
theorem nw_newLeaf (lg : Bool) (h : NW w0 wk w) : NW w0 wk (w.newLeaf (some wk) lg).2 := by
  intro l hl0
  by_cases hl : l < w.leaves.length
  · rw [World.leaf_newLeaf_old w _ lg l hl]; exact h l hl0
  · simp only [World.leaf, World.newLeaf]
    by_cases e : l = w.leaves.length
    · subst e; left; simp
    · right; rw [List.getElem?_eq_none (by simp; omega)]; rfl
end

theorem nw_ops (w0 : World) (wk : Waker) (sink : Sink) : PollOps wk sink (NW w0 wk) where
  event w e h := by cases sink <;> exact h.of_leaves rfl
  effect w e h := by cases sink <;> exact h.of_leaves rfl
  newLeaf w lg h := nw_newLeaf lg h
  spawn w c b _ _ h := h.of_leaves rfl
  legacy w b _ _ h := h.of_leaves rfl
  abortTask w s h := h.of_leaves rfl
  abortCmd w c h := fun l hl0 => by rw [pleaf_abortCmd]; exact h l hl0
  dropReceiver w l h := h.modLeaf l _ (fun _ => Or.inl rfl)
  setWaker w l _ h := h.modLeaf l _ (fun _ => Or.inr (Or.inl rfl))
  setQueue w l q h := h.modLeaf l _ (fun _ => Or.inl rfl)
  join w s h := h.of_leaves rfl
  wake w h := h.of_leaves (World.wake_leaves w wk)

theorem NW_refl (w : World) (wk : Waker) : NW w wk w := by
  intro l hl
  right
  simp [World.leaf, List.getElem?_eq_none hl]

theorem leaf_some_lt {w : World} {l : Nat} {k : Waker} (h : (w.leaf l).waker = some k) : l < w.leaves.length := by
  by_cases hl : l < w.leaves.length
  · exact hl
  · simp [World.leaf, List.getElem?_eq_none (Nat.le_of_not_lt hl)] at h


/-- what one `run_task` of the stored task `t` does to the channels -/
structure LFr (c tid : Nat) (t : Task) (w w' : World) : Prop where
  other : ∀ l, l < w.leaves.length → l ∉ refsB t.fut → w'.leaf l = w.leaf l
  old : ∀ l, l < w.leaves.length → (w'.leaf l).waker = (w.leaf l).waker ∨ (w'.leaf l).waker = some (.task c tid w.nextSerial)
  new : ∀ l, w.leaves.length ≤ l → (w'.leaf l).waker = some (.task c tid w.nextSerial) ∨ (w'.leaf l).waker = none
  refs : ∀ t', (w'.cmd c).tasks.get? tid = some t' → ∀ l ∈ refsB t'.fut, l < w.leaves.length → l ∈ refsB t.fut

theorem runTaskF_lf (pn) (f : Nat) (c tid : Nat) (w : World) (st : TaskState) (w' : World) (t : Task)
    (h : runTaskF (pollBlock pn f) c tid w = some (st, w')) (hw : HFc c w) (hg : (w.cmd c).tasks.get? tid = some t)
    (hr : inRangeB w.leaves.length w.metas.length t.fut = true) : LFr c tid t w w' := by
  have htf : hostFreeB t.fut = true := hw.t t (Slab.mem_values_of_get _ _ _ hg)
  have same : LFr c tid t w w := ⟨fun _ _ _ => rfl, fun _ _ => Or.inl rfl,
    fun l hl => Or.inr (by simp [World.leaf, List.getElem?_eq_none hl]),
    fun t' hg' l hl _ => by rw [hg] at hg'; cases hg'; exact hl⟩
  have poll : ∀ (r : PollRes) (w1 : World),
      pollBlock pn f (.task c tid w.nextSerial) (.cmd c) t.fut ({ w with nextSerial := w.nextSerial + 1 } : World) = some (r, w1) →
      (∀ l, l < w.leaves.length → l ∉ refsB t.fut → w1.leaf l = w.leaf l ∧ lfRes l r) ∧
      (∀ l, l < w.leaves.length → (w1.leaf l).waker = (w.leaf l).waker ∨ (w1.leaf l).waker = some (.task c tid w.nextSerial)) ∧
      (∀ l, w.leaves.length ≤ l → (w1.leaf l).waker = some (.task c tid w.nextSerial) ∨ (w1.leaf l).waker = none) ∧
      (w1.cmd c).tasks = (w.cmd c).tasks := by
    intro r w1 hp
    refine ⟨fun l hl hn => ?_, fun l hl => (pollBlock_good pn f _ _ _ _ _ _ hp htf hr).1.leaf l hl,
      fun l hl => pollBlock_inv pn (nw_ops ({ w with nextSerial := w.nextSerial + 1 } : World) _ _) f _ _ _ _ hp htf (NW_refl _ _) l hl,
      (pollBlock_tgood pn f (fun _ t => hostFreeB t.fut = true) _ _ _ _ _ _ hp htf (fun _ _ _ x => x)).tasks c⟩
    have := pollBlock_lfgood pn l f _ _ _ _ _ _ hp htf hl hn
    exact ⟨this.1, this.2.2⟩
  rcases runTaskF_inv h with ⟨_, _, rfl⟩ | ⟨t0, hg0, hc⟩
  · exact same
  rw [hg] at hg0; cases hg0
  rcases hc with ⟨_, _, rfl⟩ | ⟨env, hp, _⟩ | ⟨b, w1, hp, rfl, _⟩
  · exact same
  · obtain ⟨p1, p2, p3, p4⟩ := poll _ _ hp
    exact ⟨fun l hl hn => (p1 l hl hn).1, p2, p3, fun t' hg' l hl _ => by rw [p4, hg] at hg'; cases hg'; exact hl⟩
  · obtain ⟨p1, p2, p3, p4⟩ := poll _ _ hp
    refine ⟨fun l hl hn => (p1 l hl hn).1, p2, p3, fun t' hg' l hl hlt => ?_⟩
    change ((w1.modCmd c fun x => { x with tasks := x.tasks.set tid { t with fut := b } }).cmd c).tasks.get? tid = some t' at hg'
    rw [cmd_modCmd_of_get w1 c tid t _ (by rw [p4]; exact hg), Slab.get_set_self _ _ _ t (by rw [p4]; exact hg)] at hg'
    cases hg'
    exact Classical.byContradiction fun hn => (p1 l hlt hn).2 hl

/-- a channel a stored task's block references holds only wakers of that task — so no other task's poll overwrites a
    registration -/
def WOwn (c : Nat) (w : World) : Prop :=
  ∀ tid t, (w.cmd c).tasks.get? tid = some t → ∀ l ∈ refsB t.fut, ∀ c' t' s',
    (w.leaf l).waker = some (.task c' t' s') → c' = c ∧ t' = tid

/-- some channel holds a waker of task `tid` -/
def StaleW (c tid : Nat) (w : World) : Prop := ∃ l s, (w.leaf l).waker = some (.task c tid s)

theorem StaleW.of_leaves {c x : Nat} {w w' : World} (hl : w'.leaves = w.leaves) (h : StaleW c x w) : StaleW c x w' :=
  let ⟨l, s, hk⟩ := h
  ⟨l, s, by rw [pleaf_of_leaves hl]; exact hk⟩

/-- a stored task of `c` (other than the one being run) that is suspended only at closed requests is on the ready queue
    (the poll that leaves it so woke it; it is evicted by the next one) or some channel still holds a waker of it (a
    completed select drops its losing branch and leaves that branch's registrations behind at channels whose sender is
    still alive; that sender wakes the task when it goes). A simple task (no select) left so is always queued:
    `runTaskF_dead_queued`. -/
def NDS (c : Nat) (ex : Option Nat) (w : World) : Prop :=
  ∀ tid t, (w.cmd c).tasks.get? tid = some t → some tid ≠ ex → deadOnlyB t.fut = true →
    tid ∈ (w.cmd c).ready ∨ StaleW c tid w

section
variable {c : Nat} {ex ex' : Option Nat} {w w' : World}

theorem NDS.step (h : NDS c ex w)
    (ht : ∀ tid t, (w'.cmd c).tasks.get? tid = some t → some tid ≠ ex' →
      ((w.cmd c).tasks.get? tid = some t ∧ some tid ≠ ex) ∨ tid ∈ (w'.cmd c).ready)
    (hk : ∀ tid, some tid ≠ ex' → tid ∈ (w.cmd c).ready ∨ StaleW c tid w → tid ∈ (w'.cmd c).ready ∨ StaleW c tid w') : NDS c ex' w' := by
  intro tid t hg hne hd
  rcases ht tid t hg hne with ⟨hg0, hne0⟩ | h1
  · exact hk tid hne (h tid t hg0 hne0 hd)
  · exact Or.inl h1

theorem NDS.incl {tid : Nat} (h : NDS c (some tid) w)
    (hs : ∀ t, (w.cmd c).tasks.get? tid = some t → deadOnlyB t.fut = true → tid ∈ (w.cmd c).ready ∨ StaleW c tid w) : NDS c none w := by
  intro tid' t' hg _ hd
  by_cases e : tid' = tid
  · subst e; exact hs t' hg hd
  · exact h tid' t' hg (fun e' => e (Option.some.inj e')) hd

theorem NDS.pop {tid : Nat} {rest : List Nat} (h : NDS c none w) (hr : (w.cmd c).ready = tid :: rest) (hin : c < w.cmds.length) :
    NDS c (some tid) (w.modCmd c fun y => { y with ready := rest }) := by
  refine h.step (fun tid' t' hg _ => Or.inl ⟨by rw [cmd_modCmd_lt hin] at hg; exact hg, nofun⟩) fun tid' hne hk => hk.imp ?_ (StaleW.of_leaves rfl)
  intro hm
  rw [hr, List.mem_cons] at hm
  rw [cmd_modCmd_lt hin]
  exact hm.resolve_left fun e => hne (by rw [e])

theorem NDS.run {pn : Waker → Nat → World → Option (NextRes × World)} {f tid : Nat} {st : TaskState} (h : NDS c (some tid) w)
    (hrt : runTaskF (pollBlock pn f) c tid w = some (st, w')) (hw : HFc c w) (hH : ∀ x, x ≠ tid → StaleW c x w → StaleW c x w') :
    NDS c (some tid) w' := by
  have fr := runTaskF_frame pn f c tid w st w' hrt hw
  exact h.step (fun tid' t' hg hne => Or.inl ⟨by rw [← fr.1 tid' fun e => hne (by rw [e])]; exact hg, hne⟩)
    fun tid' hne hk => hk.imp (fr.2 tid') (hH tid' fun e => hne (by rw [e]))

theorem NDS.finish {tid : Nat} (h : NDS c (some tid) w) (hw : HFc c w) (hH : ∀ x, StaleW c x w → StaleW c x (finishTask c tid w)) :
    NDS c none (finishTask c tid w) := by
  have fr := finishTask_frame c tid w hw
  exact h.step (fun tid' t' hg _ => Or.inl ⟨(fr.1 tid' t' hg).1, fun e => (fr.1 tid' t' hg).2 (Option.some.inj e)⟩)
    fun tid' _ hk => hk.imp (fr.2 tid') (hH tid')

theorem NDS.spawn (h : NDS c none w) (hin : c < w.cmds.length) : NDS c none (spawnNewTasks c w) := by
  intro tid t hg hne hd
  rcases spawnNewTasks_get c w hin tid t hg with ⟨h1, h2⟩ | ⟨_, h2⟩
  · exact (h tid t h1 hne hd).imp h2 (StaleW.of_leaves (spawnNewTasks_leaves c w))
  · exact Or.inl h2

theorem NDS.same (h : NDS c ex w) (ht : (w'.cmd c).tasks = (w.cmd c).tasks)
    (hk : ∀ tid, tid ∈ (w.cmd c).ready ∨ StaleW c tid w → tid ∈ (w'.cmd c).ready ∨ StaleW c tid w') : NDS c ex w' :=
  h.step (fun tid t hg hne => Or.inl ⟨by rw [← ht]; exact hg, hne⟩) fun tid _ => hk tid
end


section
variable {pn : Waker → Nat → World → Option (NextRes × World)} {f c tid : Nat} {w : World} {st : TaskState} {w' : World}

theorem WOwn.of_same {w' : World} (h : WOwn c w) (ht : (w'.cmd c).tasks = (w.cmd c).tasks) (hl : w'.leaves = w.leaves) : WOwn c w' := by
  intro tid t hg l hl' c' t' s' hk
  rw [ht] at hg; rw [pleaf_of_leaves hl] at hk
  exact h tid t hg l hl' c' t' s' hk

theorem runTaskF_wown (h : runTaskF (pollBlock pn f) c tid w = some (st, w')) (hown : Own c w) (hwf : WFw w) (hwo : WOwn c w) :
    WOwn c w' := by
  cases hgo : (w.cmd c).tasks.get? tid with
  | none =>
    rw [runTaskF_missing _ c tid w hgo] at h
    cases h; exact hwo
  | some t =>
    have hrt : inRangeB w.leaves.length w.metas.length t.fut = true := hwf.t c t (Slab.mem_values_of_get _ _ _ hgo)
    have lf := runTaskF_lf pn f c tid w st w' t h hown.hfc hgo hrt
    have fr := runTaskF_frame pn f c tid w st w' h hown.hfc
    intro tid' t' hg' l hl c' t'' s' hk
    by_cases e : tid' = tid
    · subst e
      by_cases hlt : l < w.leaves.length
      · have hl0 := lf.refs t' hg' l hl hlt
        rcases lf.old l hlt with h1 | h1
        · rw [h1] at hk; exact hwo tid' t hgo l hl0 c' t'' s' hk
        · rw [h1] at hk; cases hk; exact ⟨rfl, rfl⟩
      · rcases lf.new l (Nat.le_of_not_lt hlt) with h1 | h1
        · rw [h1] at hk; cases hk; exact ⟨rfl, rfl⟩
        · rw [h1] at hk; cases hk
    · rw [fr.1 tid' e] at hg'
      have hlt : l < w.leaves.length :=
        refsB_lt _ _ t'.fut (hwf.t c t' (Slab.mem_values_of_get _ _ _ hg')) l hl
      have hn : l ∉ refsB t.fut := hown.disjoint tid tid' t t' (Ne.symm e) hgo hg' l hl
      rw [lf.other l hlt hn] at hk
      exact hwo tid' t' hg' l hl c' t'' s' hk

/-- another task's stale registration survives the poll: the polled task's block does not reference that channel -/
theorem runTaskF_stale_others (h : runTaskF (pollBlock pn f) c tid w = some (st, w')) (hown : Own c w) (hwf : WFw w)
    (hwo : WOwn c w) (x : Nat) (hx : x ≠ tid) (hs : StaleW c x w) : StaleW c x w' := by
  cases hgo : (w.cmd c).tasks.get? tid with
  | none =>
    rw [runTaskF_missing _ c tid w hgo] at h
    cases h; exact hs
  | some t =>
    have lf := runTaskF_lf pn f c tid w st w' t h hown.hfc hgo (hwf.t c t (Slab.mem_values_of_get _ _ _ hgo))
    obtain ⟨l, s0, h1⟩ := hs
    refine ⟨l, s0, ?_⟩
    rw [lf.other l (leaf_some_lt h1) fun hl => hx (hwo tid t hgo l hl c x s0 h1).2]
    exact h1

/-- a simpleS task that `run_task` keeps as `Suspended` was woken during its poll (hence is queued) or a channel holds
    the poll's waker: no join-handle queue and no command holds it (`MCGood`) -/
theorem runTaskF_dead_stale (h : runTaskF (pollBlock pn f) c tid w = some (.suspended, w')) (hw : HFc c w)
    (hs : ∀ t ∈ (w.cmd c).tasks.values, simpleSB t.fut = true) (sok : SOk w) (hal : (w.cmd c).alive = true)
    (hin : c < w.cmds.length) :
    tid ∈ (w'.cmd c).ready ∨ ∃ l, (w'.leaf l).waker = some (.task c tid w.nextSerial) := by
  obtain ⟨t, b, w1, hg, hp, rfl, hk⟩ := runTaskF_suspended h
  have hm := Slab.mem_values_of_get _ _ _ hg
  have htf := hw.t t hm
  rcases hk with hk | hk
  · exact Or.inl (rd_of_cmds (w := w1.modCmd c _) rfl (rd_modCmd_keep c _ (fun _ => rfl)
      (woken_means_queued pn f c tid w _ _ w1 hp htf sok hal hin (List.contains_iff_mem.mp hk))))
  · have mc : NoRegMC w.nextSerial w1 := pollBlock_mcgood pn w.nextSerial f _ _ _ _ _ _ hp htf (hs t hm) (NoReg_of_sok sok).mc
    have mc' := (mc.modCmd c (fun x => { x with tasks := x.tasks.set tid { t with fut := b } }) fun _ hx => hx).of_same
      (w' := { (w1.modCmd c fun x => { x with tasks := x.tasks.set tid { t with fut := b } }) with
        woken := w1.woken.filter (· != w.nextSerial) }) rfl rfl
    rw [mc'.holders] at hk
    change (w1.leaves.filter fun l => isSerial w.nextSerial l.waker).length ≠ 0 at hk
    obtain ⟨lf, hlf⟩ := List.exists_mem_of_length_pos (Nat.pos_of_ne_zero hk)
    rw [List.mem_filter] at hlf
    obtain ⟨i, hi⟩ := List.getElem?_of_mem hlf.1
    have hleaf : w1.leaf i = lf := by simp [World.leaf, hi]
    refine Or.inr ⟨i, ?_⟩
    show (w1.leaf i).waker = _
    rw [hleaf]
    cases hw : lf.waker with
    | none => rw [hw] at hlf; cases hlf.2
    | some k =>
      -- every waker with the poll's serial is the poll's waker
      have wp := pollBlock_wpgood pn c tid w.nextSerial f (.cmd c) t.fut _ _ w1 hp htf (WP_init c tid w sok hal hin)
      rcases wp.u.leaves i k (by rw [hleaf]; exact hw) with h1 | h1
      · rw [h1]
      · have := hlf.2
        rw [hw] at this
        cases k with
        | root _ => cases this
        | task c' t' s' => simp only [isSerial, beq_iff_eq] at this; exact absurd (by simp [serOf, this]) h1

/-- a SIMPLE task that `run_task` keeps as `Suspended` although it is suspended only at closed requests was woken during
    its poll, hence is queued: nothing holds the waker of a poll that ends so (`NRGood`) -/
theorem runTaskF_dead_queued (h : runTaskF (pollBlock pn f) c tid w = some (.suspended, w')) (hw : HFc c w) (hs : SPc c w)
    (sok : SOk w) (hal : (w.cmd c).alive = true) (hin : c < w.cmds.length) :
    ∀ t, (w'.cmd c).tasks.get? tid = some t → deadOnlyB t.fut = true → tid ∈ (w'.cmd c).ready := by
  obtain ⟨t, b, w1, hg, hp, rfl, hk⟩ := runTaskF_suspended h
  have hm := Slab.mem_values_of_get _ _ _ hg
  have htf := hw.t t hm
  have pt : (w1.cmd c).tasks = (w.cmd c).tasks :=
    (pollBlock_tgood pn f (fun _ t => hostFreeB t.fut = true) _ _ _ _ _ _ hp htf (fun _ _ _ x => x)).tasks c
  intro t2 hg2 hd
  change ((w1.modCmd c fun x => { x with tasks := x.tasks.set tid { t with fut := b } }).cmd c).tasks.get? tid = some t2 at hg2
  rw [cmd_modCmd_of_get w1 c tid t _ (by rw [pt]; exact hg), Slab.get_set_self _ _ _ t (by rw [pt]; exact hg)] at hg2
  cases hg2
  have nr : NoReg w.nextSerial w1 := pollBlock_nrgood pn w.nextSerial f c tid _ _ _ _ _ hp htf (hs.t t hm) (NoReg_of_sok sok) hd
  rcases hk with hk | hk
  · exact rd_of_cmds (w := w1.modCmd c _) rfl (rd_modCmd_keep c _ (fun _ => rfl)
      (woken_means_queued pn f c tid w _ _ w1 hp htf sok hal hin (List.contains_iff_mem.mp hk)))
  · have mc' := (nr.mc.modCmd c (fun x => { x with tasks := x.tasks.set tid { t with fut := b } }) fun _ hx => hx).of_same
      (w' := { (w1.modCmd c fun x => { x with tasks := x.tasks.set tid { t with fut := b } }) with
        woken := w1.woken.filter (· != w.nextSerial) }) rfl rfl
    exact (hk (NoReg.holders ⟨nr.leaves, mc'.metas, mc'.cmds⟩)).elim
end

theorem finishTask_wakers (c tid : Nat) (w : World) (hw : HFc c w) (l : Nat) :
    ((finishTask c tid w).leaf l).waker = (w.leaf l).waker := by
  cases hg : (w.cmd c).tasks.get? tid with
  | none => rw [finishTask_none hg]
  | some t =>
    rw [finishTask_some hg]
    unfold World.dropTask M.Rt.dropTask
    rw [(dropBlock_keeps _ t.fut _ (hw.t t (Slab.mem_values_of_get _ _ _ hg))).1 l]
    exact congrArg Leaf.waker (pleaf_of_leaves (wakeAll_lm _ _).1 l)

theorem finishTask_stale (c tid : Nat) (w : World) (hw : HFc c w) (x : Nat) (h : StaleW c x w) : StaleW c x (finishTask c tid w) :=
  let ⟨l, s, hl⟩ := h
  ⟨l, s, by rw [finishTask_wakers c tid w hw l]; exact hl⟩

theorem finishTask_wown (c tid : Nat) (w : World) (hw : HFc c w) (hwo : WOwn c w) : WOwn c (finishTask c tid w) := by
  intro tid' t' hg' l hl c' t'' s' hk
  rw [finishTask_wakers c tid w hw l] at hk
  exact hwo tid' t' ((finishTask_frame c tid w hw).1 tid' t' hg').1 l hl c' t'' s' hk

theorem spawnNewTasks_wown (c : Nat) (w : World) (hin : c < w.cmds.length) (hs : SPS c w) (hwo : WOwn c w) :
    WOwn c (spawnNewTasks c w) := by
  intro tid t hg l hl c' t' s' hk
  rw [pleaf_of_leaves (spawnNewTasks_leaves c w)] at hk
  rcases spawnNewTasks_get c w hin tid t hg with ⟨h1, _⟩ | ⟨h1, _⟩
  · exact hwo tid t h1 l hl c' t' s' hk
  · rw [(hs.s t h1).2] at hl; cases hl

end M.Rt
