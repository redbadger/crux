/- `wake_reaches_root`: waking a task of a command nested at ANY depth re-queues the executor task at the root
   (CommandWaker::wake_by_ref + AtomicWaker + TaskWaker). `wake` also re-queues every hosting task on the way up; only the
   root is stated. -/
import CruxVerif.Lemmas.RtBasic
namespace M.Rt

/-- a hosting chain in world `w`: the woken task (cid, tid, serial), then the task of the hosting command that
    polled it (its token sits in the hosted command's AtomicWaker), and so on; the outermost command's AtomicWaker
    holds `top` (a root waker when hosted in the Core, or nothing when held directly by a test) -/
inductive Chain (w : World) : List (Nat × Nat × Nat) → Option Waker → Prop where
  | last (cid tid serial : Nat) (top : Option Waker) (h : (w.cmd cid).waker = top) :
      Chain w [(cid, tid, serial)] top
  | cons (cid tid serial : Nat) (p : Nat × Nat × Nat) (rest : List (Nat × Nat × Nat)) (top : Option Waker)
      (h : (w.cmd cid).waker = some (.task p.1 p.2.1 p.2.2)) (tl : Chain w (p :: rest) top) :
      Chain w ((cid, tid, serial) :: p :: rest) top

theorem Chain.frame {w : World} {l : List (Nat × Nat × Nat)} {top : Option Waker} (hc : Chain w l top)
    (cid : Nat) (f : CmdSt → CmdSt) (hnot : ∀ p ∈ l, p.1 ≠ cid) (woken : List Nat) :
    Chain { (w.modCmd cid f) with woken := woken } l top := by
  induction hc with
  | last c t s top h =>
    refine Chain.last c t s top ?_
    have : cid ≠ c := fun e => hnot (c, t, s) (by simp) e.symm
    show ((w.modCmd cid f).cmd c).waker = top
    rw [World.cmd_modCmd_other _ _ _ _ this]; exact h
  | cons c t s p rest top h tl ih =>
    refine Chain.cons c t s p rest top ?_ (ih (fun q hq => hnot q (by simp [hq])))
    have : cid ≠ c := fun e => hnot (c, t, s) (by simp) e.symm
    show ((w.modCmd cid f).cmd c).waker = _
    rw [World.cmd_modCmd_other _ _ _ _ this]; exact h

theorem wake_reaches_root : ∀ (l : List (Nat × Nat × Nat)) (w : World) (etid : Nat) (fuel : Nat),
    Chain w l (some (.root etid)) → (l.map (·.1)).Nodup → l.length ≤ fuel →
    ∀ p ∈ l.head?, (wake fuel (.task p.1 p.2.1 p.2.2) w).execReady = w.execReady ++ [etid] := by
  intro l
  induction l with
  | nil => intro w etid fuel hc; cases hc
  | cons q rest ih =>
    intro w etid fuel hc hnd hlen p hp
    simp only [List.head?_cons, Option.mem_def, Option.some.injEq] at hp
    subst hp
    obtain ⟨cid, tid, serial⟩ := q
    cases fuel with
    | zero => simp at hlen
    | succ fuel =>
      cases hc with
      | last _ _ _ _ h =>
        unfold wake
        simp only [h]
        cases fuel <;> simp [wake, World.modCmd] <;> split <;> simp
      | cons _ _ _ p' rest' _ h tl =>
        unfold wake
        simp only [h]
        have hnd' : ((p' :: rest').map (·.1)).Nodup := (List.nodup_cons.mp hnd).2
        have hnot : ∀ r ∈ p' :: rest', r.1 ≠ cid := by
          intro r hr e
          have := (List.nodup_cons.mp hnd).1
          exact this (List.mem_map.mpr ⟨r, hr, e⟩)
        have hlen' : (p' :: rest').length ≤ fuel := by simp at hlen ⊢; omega
        -- the world the parent is woken in: command `cid` modified twice, `woken` extended
        split
        · have hch := (Chain.frame (Chain.frame tl cid (fun c => { c with ready := c.ready ++ [tid] }) hnot w.woken)
            cid (fun c => { c with waker := none }) hnot (serial :: w.woken))
          have := ih _ etid fuel hch hnd' hlen' p' (by simp)
          simpa [World.modCmd] using this
        · have hch := Chain.frame tl cid (fun c => { c with waker := none }) hnot (serial :: w.woken)
          have := ih _ etid fuel hch hnd' hlen' p' (by simp)
          simpa [World.modCmd] using this

end M.Rt
