/-
Helper lemmas for C10, direction "what is written decodes to the value written, with nothing lost":
`wt R f v → depth v ≤ fuel → dec fuel R f (enc v ++ rest) = some (v, rest)`, by structural recursion on the value.
-/
import CruxVerif.Lemmas.BincodeSound
namespace Lemmas.Bincode
open M.Schema M.Bincode S.Codec

theorem decC_struct {dn : String → Dec} {c : ContainerFormat} {fs : List Format} (h : structFields c = some fs)
    (bs : Bytes) : decC dn c bs = mapFst Value.tuple (decT dn fs bs) := by
  cases c <;> simp [structFields] at h <;> simp [decC, structFields, h]

theorem decName_succ_struct {R : Registry} {k : Nat} {n : String} {c : ContainerFormat} {fs : List Format}
    (hc : lookup n R = some c) (h : structFields c = some fs) (bs : Bytes) :
    decName R (k + 1) n bs = mapFst Value.tuple (decT (decName R k) fs bs) := by
  simp only [decName, hc, decC_struct h]

theorem decName_succ_enum {R : Registry} {k : Nat} {n : String} {variants : List (Nat × Named VariantFormat)}
    (hc : lookup n R = some (.enum variants)) (bs : Bytes) :
    decName R (k + 1) n bs = decC (decName R k) (.enum variants) bs := by
  simp only [decName, hc]

mutual
theorem decF_complete (R : Registry) : ∀ (v : Value) (f : Format) (k : Nat) (rest : Bytes),
    wt R f v = true → depth v ≤ k → decF (decName R k) f (enc v ++ rest) = some (v, rest)
  | .bool b, f, k, rest, h, _ => by
    cases f <;> simp [wt] at h
    cases b <;> simp [decF, enc]
  | .num t n, f, k, rest, h, _ => by
    cases f <;> simp [wt] at h
    obtain ⟨rfl, h⟩ := h
    simp [decF, enc, decNum_enc _ _ _ h]
  | .char c, f, k, rest, h, _ => by
    cases f <;> simp [wt] at h
    simp [decF, enc, decChar_enc _ _ h]
  | .str s, f, k, rest, h, _ => by
    cases f <;> simp [wt] at h
    simp [decF, enc, decLenBytes_enc _ _ h.2, h.1]
  | .bytes s, f, k, rest, h, _ => by
    cases f <;> simp [wt] at h
    simp [decF, enc, decLenBytes_enc _ _ h, mapFst]
  | .none, f, k, rest, h, _ => by
    cases f <;> simp [wt] at h
    simp [decF, enc]
  | .some v, f, k, rest, h, hk => by
    cases f <;> simp [wt] at h
    rename_i g
    have := decF_complete R v g k rest h (by simp only [depth] at hk; omega)
    simp [decF, enc, this, mapFst]
  | .seq vs, f, k, rest, h, hk => by
    simp only [depth] at hk
    cases f with
    | seq g =>
      simp only [wt, Bool.and_eq_true, decide_eq_true_eq] at h
      have := decAll_complete R vs g k rest h.2 (by omega)
      simp only [decF, enc, List.append_assoc]
      rw [decNat_enc 8 _ _ (by simpa using h.1)]
      simp only [this, mapFst]
    | map kf vf =>
      simp only [wt, Bool.and_eq_true, decide_eq_true_eq] at h
      have := decPairs_complete R vs kf vf k rest h.2 (by omega)
      simp only [decF, enc, List.append_assoc]
      rw [decNat_enc 8 _ _ (by simpa using h.1)]
      simp only [this, mapFst]
    | _ => simp [wt] at h
  | .tuple vs, f, k, rest, h, hk => by
    simp only [depth] at hk
    cases f with
    | typeName n =>
      simp only [wt] at h
      split at h
      · rename_i c hc
        split at h
        · rename_i fs hfs
          obtain ⟨k', rfl⟩ : ∃ k', k = k' + 1 := ⟨k - 1, by omega⟩
          have := decT_complete R vs fs k' rest h (by omega)
          simp only [decF, enc, decName_succ_struct hc hfs, this, mapFst]
        · cases h
      · cases h
    | unit =>
      cases vs <;> simp [wt] at h
      simp [decF, enc, encAll]
    | tuple fs =>
      have := decT_complete R vs fs k rest h (by omega)
      simp only [decF, enc, this, mapFst]
    | tupleArray g n =>
      simp only [wt, Bool.and_eq_true, decide_eq_true_eq] at h
      obtain ⟨rfl, h⟩ := h
      have := decAll_complete R vs g k rest h (by omega)
      simp only [decF, enc, this, mapFst]
    | _ => simp [wt] at h
  | .variant i p, f, k, rest, h, hk => by
    cases f with
    | typeName n =>
      cases p <;> simp only [wt, Bool.false_eq_true] at h
      rename_i vs
      simp only [depth] at hk
      split at h
      · rename_i variants hc
        simp only [Bool.and_eq_true, decide_eq_true_eq] at h
        obtain ⟨hi, h⟩ := h
        split at h
        · rename_i vf hvf
          obtain ⟨k', rfl⟩ : ∃ k', k = k' + 1 := ⟨k - 1, by omega⟩
          have := decT_complete R vs vf.value.fields k' rest h (by omega)
          simp only [decF, enc, decName_succ_enum hc, decC, List.append_assoc]
          rw [decNat_enc 4 _ _ (by simpa using hi)]
          simp only [hvf, this, mapFst]
        · cases h
      · cases h
    | _ => simp [wt] at h
theorem decAll_complete (R : Registry) : ∀ (vs : List Value) (f : Format) (k : Nat) (rest : Bytes),
    wtAll R f vs = true → depthAll vs ≤ k →
      decListWith (decF (decName R k) f) vs.length (encAll vs ++ rest) = some (vs, rest)
  | [], f, k, rest, _, _ => by simp [decListWith, encAll]
  | v :: vs, f, k, rest, h, hk => by
    simp only [wtAll, Bool.and_eq_true] at h
    simp only [depthAll] at hk
    have h1 := decF_complete R v f k (encAll vs ++ rest) h.1 (by omega)
    have h2 := decAll_complete R vs f k rest h.2 (by omega)
    simp only [List.length_cons, decListWith, encAll, List.append_assoc, h1, h2]
theorem decT_complete (R : Registry) : ∀ (vs : List Value) (fs : List Format) (k : Nat) (rest : Bytes),
    wtT R fs vs = true → depthAll vs ≤ k → decT (decName R k) fs (encAll vs ++ rest) = some (vs, rest)
  | [], [], k, rest, _, _ => by
    simp [decT, encAll]
  -- on every other shape `wtT … = true` reduces to `false = true`, so Lean drops the case by itself (same below)
  | v :: vs, f :: fs, k, rest, h, hk => by
    simp only [wtT, Bool.and_eq_true] at h
    simp only [depthAll] at hk
    have h1 := decF_complete R v f k (encAll vs ++ rest) h.1 (by omega)
    have h2 := decT_complete R vs fs k rest h.2 (by omega)
    simp only [decT, encAll, List.append_assoc, h1, h2]
theorem decPairs_complete (R : Registry) : ∀ (vs : List Value) (kf vf : Format) (k : Nat) (rest : Bytes),
    wtPairs R kf vf vs = true → depthAll vs ≤ k →
      decListWith (decPair (decF (decName R k) kf) (decF (decName R k) vf)) vs.length (encAll vs ++ rest)
        = some (vs, rest)
  | [], kf, vf, k, rest, _, _ => by simp [decListWith, encAll]
  | .tuple [a, b] :: vs, kf, vf, k, rest, h, hk => by
    simp only [wtPairs, Bool.and_eq_true] at h
    simp only [depthAll, depth] at hk
    have h1 := decF_complete R a kf k (enc b ++ (encAll vs ++ rest)) h.1.1 (by omega)
    have h2 := decF_complete R b vf k (encAll vs ++ rest) h.1.2 (by omega)
    have h3 := decPairs_complete R vs kf vf k rest h.2 (by omega)
    simp only [List.length_cons, decListWith, decPair, encAll, enc, List.append_assoc, List.append_nil, h1, h2, h3]
end

end Lemmas.Bincode
