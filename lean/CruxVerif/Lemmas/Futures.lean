/-
C13, first clause: what happens to a task's FUTURE (`Meta.taskAlive`, the model's drop guard) when the task finishes, is
cancelled, or its command is aborted — and that nothing else's future is touched.
-/
import CruxVerif.Lemmas.WPoll
import CruxVerif.Lemmas.GPark
import CruxVerif.Model.Futures
namespace M.Rt
open M.Hosts

theorem dropBlock_metas (dc : Nat → World → World) (b : Block) (w : World) (hb : hostFreeB b = true) :
    (dropBlock dc b w).metas = w.metas :=
  (dropBlock_keeps dc b w hb).2.1

theorem dropTask_future_other (w : World) (t : Task) (ht : hostFreeB t.fut = true) :
    ∀ s, s ≠ t.serial → (w.dropTask t).getMeta s = w.getMeta s := by
  intro s hne
  unfold World.dropTask dropTask
  rw [getMeta_of_metas (dropBlock_metas _ t.fut _ ht), getMeta_modMeta_other _ _ _ _ (fun e => hne e.symm)]

theorem dropTask_future (w : World) (t : Task) (ht : hostFreeB t.fut = true) (hs : t.serial < w.metas.length) :
    ((w.dropTask t).getMeta t.serial).taskAlive = false ∧
    ∀ s, s ≠ t.serial → (w.dropTask t).getMeta s = w.getMeta s := by
  refine ⟨?_, dropTask_future_other w t ht⟩
  unfold World.dropTask dropTask
  rw [getMeta_of_metas (dropBlock_metas _ t.fut _ ht), World.getMeta_modMeta_lt _ _ _ hs]

theorem finishTask_future_other (c tid : Nat) (w : World) (t : Task) (hg : (w.cmd c).tasks.get? tid = some t)
    (ht : hostFreeB t.fut = true) (s : Nat) (hne : s ≠ t.serial) :
    ((finishTask c tid w).getMeta s).taskAlive = (w.getMeta s).taskAlive := by
  rw [finishTask_some hg, dropTask_future_other _ t ht s hne, getMeta_of_metas (wakeAll_lm _ _).2,
    getMeta_modMeta_other _ _ _ _ (fun e => hne e.symm)]
  rfl

/-- **a finished or cancelled task's future is dropped, and no other task's** (command/executor.rs, the
    `Completed | Cancelled` arm of `run_until_settled`: remove, mark finished, wake join handles, `drop(task)`) -/
theorem finishTask_future (c tid : Nat) (w : World) (t : Task) (hg : (w.cmd c).tasks.get? tid = some t)
    (ht : hostFreeB t.fut = true) (hs : t.serial < w.metas.length) :
    ((finishTask c tid w).getMeta t.serial).taskAlive = false ∧
    (∀ s, s ≠ t.serial → ((finishTask c tid w).getMeta s).taskAlive = (w.getMeta s).taskAlive) := by
  refine ⟨?_, finishTask_future_other c tid w t hg ht⟩
  rw [finishTask_some hg]
  refine (dropTask_future _ t ht ?_).1
  rw [(wakeAll_lm _ _).2]
  exact (modifyNth_length _ _ _).symm ▸ hs

theorem filter_alive_drop : ∀ (ms : List Meta) (s : Nat), s < ms.length → (ms[s]?.getD {}).taskAlive = true →
    ((modifyNth ms s fun m => { m with taskAlive := false, joinWakers := [] }).filter (·.taskAlive)).length + 1 =
      (ms.filter (·.taskAlive)).length
  | [], _, hs, _ => by simp at hs
  | m :: ms, 0, _, ha => by
    simp only [List.getElem?_cons_zero, Option.getD_some] at ha
    simp [modifyNth, ha]
  | m :: ms, s + 1, hs, ha => by
    simp only [List.getElem?_cons_succ] at ha
    simp only [List.length_cons, Nat.add_lt_add_iff_right] at hs
    have := filter_alive_drop ms s hs ha
    simp only [modifyNth, List.filter_cons]
    split
    · simp only [List.length_cons]; omega
    · exact this

theorem liveFutures_modMeta_drop (w : World) (s : Nat) (hs : s < w.metas.length) (ha : (w.getMeta s).taskAlive = true) :
    liveFutures (w.modMeta s fun m => { m with taskAlive := false, joinWakers := [] }) + 1 = liveFutures w :=
  filter_alive_drop w.metas s hs ha

theorem liveFutures_dropTask (w : World) (t : Task) (ht : hostFreeB t.fut = true) (hs : t.serial < w.metas.length)
    (ha : (w.getMeta t.serial).taskAlive = true) : liveFutures (w.dropTask t) + 1 = liveFutures w := by
  have hm := dropBlock_metas (fun c w => w.dropCmd c) t.fut
    (w.modMeta t.serial fun m => { m with taskAlive := false, joinWakers := [] }) ht
  have : liveFutures (w.dropTask t) =
      liveFutures (w.modMeta t.serial fun m => { m with taskAlive := false, joinWakers := [] }) := by
    unfold liveFutures World.dropTask dropTask
    rw [hm]
  rw [this]
  exact liveFutures_modMeta_drop w t.serial hs ha

theorem dropTask_keeps_dropped (w : World) (t : Task) (ht : hostFreeB t.fut = true) (s : Nat) (hs : s < w.metas.length)
    (hd : (w.getMeta s).taskAlive = false) : ((w.dropTask t).getMeta s).taskAlive = false := by
  by_cases e : s = t.serial
  · subst e; exact (dropTask_future w t ht hs).1
  · rw [(dropTask_future_other w t ht) s e]; exact hd

theorem dropTask_metas_length (w : World) (t : Task) (ht : hostFreeB t.fut = true) :
    (w.dropTask t).metas.length = w.metas.length := by
  unfold World.dropTask dropTask
  rw [dropBlock_metas _ _ _ ht]
  simp [World.modMeta, modifyNth_length]

/-- `self.tasks.clear()` of an aborted command: every task future that was stored is dropped -/
theorem dropAll_futures : ∀ (ts : List Task) (w : World), (∀ t ∈ ts, hostFreeB t.fut = true ∧ t.serial < w.metas.length) →
    (∀ t ∈ ts, ((ts.foldl (fun w t => w.dropTask t) w).getMeta t.serial).taskAlive = false) ∧
    (∀ s, s < w.metas.length → (w.getMeta s).taskAlive = false →
      ((ts.foldl (fun w t => w.dropTask t) w).getMeta s).taskAlive = false) ∧
    (ts.foldl (fun w t => w.dropTask t) w).metas.length = w.metas.length
  | [], w, _ => ⟨fun t ht => (nomatch ht), fun _ _ h => h, rfl⟩
  | t :: ts, w, h => by
    have ht := h t (List.mem_cons_self ..)
    have hlen := dropTask_metas_length w t ht.1
    have ih := dropAll_futures ts (w.dropTask t) (fun t' ht' => by
      have := h t' (List.mem_cons_of_mem _ ht'); exact ⟨this.1, by rw [hlen]; exact this.2⟩)
    simp only [List.foldl_cons]
    refine ⟨?_, ?_, by rw [ih.2.2, hlen]⟩
    · intro t' ht'
      rcases List.mem_cons.mp ht' with e | e
      · subst e
        exact ih.2.1 _ (by rw [hlen]; exact ht.2) (dropTask_future w t' ht.1 ht.2).1
      · exact ih.1 t' e
    · intro s hs hd
      exact ih.2.1 s (by rw [hlen]; exact hs) (dropTask_keeps_dropped w t ht.1 s hs hd)

end M.Rt
