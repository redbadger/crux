/- One poll of ANY block of command `p` (hosting blocks included) stays within `PT p` and keeps `HL`; then `HL` and the
   frame `RT c` through the command executor and the knot on the nesting depth. -/
import CruxVerif.Lemmas.HostLtDrop
import CruxVerif.Lemmas.RtExec
namespace M.Rt

def PnT (pn : Waker → Nat → World → Option (NextRes × World)) : Prop :=
  ∀ wk c w r w', pn wk c w = some (r, w') → HL w → HL w' ∧ RT c w w'

def HGood (pn : Waker → Nat → World → Option (NextRes × World)) (f : Nat) : Prop :=
  ∀ wk p b w r w', pollBlock pn f wk (.cmd p) b w = some (r, w') → HL w → hostsLtB p b = true →
    HL w' ∧ hostsLtRes p r ∧ PT p w w'

theorem hostLoop_hl (pn) (hpn : PnT pn) (f : Nat) (wk : Waker) (me c : Nat) (m : Mapper) (w : World) (d : Bool)
    (w' : World) (h : hostLoop pn f wk me c m w = some (d, w')) (hc : c < me) (hw : HL w) : HL w' ∧ PT me w w' :=
  hostLoop_inv (J := fun w1 => HL w1 ∧ PT me w w1)
    (fun w1 r w2 hp k => PT.step k fun h1 => (hpn wk c w1 r w2 hp h1).imp_right (RT.toPT hc))
    (fun w1 o k => PT.step k (tk_forward w1 me o).hl_pt) f w d w' h ⟨hw, PT.refl me w⟩

/-- the steps within `TKp` add to `p`'s spawn queue only what hosts below `p`; the hosted commands are below `p`, so running
    and dropping them stays below `p` -/
theorem pollBlock_hgood (pn) (hpn : PnT pn) : ∀ f, HGood pn f := fun f wk p b w r w' h hw hb =>
  have k := pollBlock_ltgood (J := fun w1 => HL w1 ∧ PT p w w1) (New := NewP p)
    (fun _ _ f1 k => PT.step k f1.hl_pt) (fun c t e ht => ⟨(Sink.cmd.inj e).symm, ht⟩)
    (fun f me c m w1 d w2 e hc hl k => by cases e; exact PT.step k (hostLoop_hl pn hpn f wk p c m w1 d w2 hl hc))
    (fun c w1 hc k => PT.step k fun h1 => (World_dropCmd_hl w1 c h1).imp_right (RT.toPT hc))
    f b w r w' h hb ⟨hw, PT.refl p w⟩
  ⟨k.1.1, k.2, k.1.2⟩

def PollT (poll : Waker → Sink → Block → World → Option (PollRes × World)) : Prop :=
  ∀ wk p b w r w', poll wk (.cmd p) b w = some (r, w') → HL w → hostsLtB p b = true →
    HL w' ∧ hostsLtRes p r ∧ PT p w w'

def RunT (runTask : Nat → Nat → World → Option (TaskState × World)) : Prop :=
  ∀ c tid w st w', runTask c tid w = some (st, w') → HL w → HL w' ∧ RT c w w'

def SettleT (settle : Nat → World → Option World) : Prop :=
  ∀ c w w', settle c w = some w' → HL w → HL w' ∧ RT c w w'

theorem tk0_same (W : World) (W' : World) (hc : W'.cmds = W.cmds) : TK0 W W' := tk_of_cmds hc

theorem runTaskF_hl (poll) (hp : PollT poll) : RunT (runTaskF poll) := by
  intro c tid w st w' h hw
  have k0 : HL ({ w with nextSerial := w.nextSerial + 1 } : World) ∧ RT c w { w with nextSerial := w.nextSerial + 1 } :=
    (tk_nextSerial w _).hl_rt hw
  have polled {t r w1} (hg : (w.cmd c).tasks.get? tid = some t)
      (hpoll : poll (.task c tid w.nextSerial) (.cmd c) t.fut { w with nextSerial := w.nextSerial + 1 } = some (r, w1)) :
      (HL w1 ∧ RT c w w1) ∧ hostsLtRes c r :=
    have k := hp _ _ _ _ _ _ hpoll k0.1 (hw.tasks c t (Slab.mem_values_of_get _ _ _ hg))
    ⟨RT.step k0 fun _ => ⟨k.1, k.2.2.toRT⟩, k.2.1⟩
  refine runTaskF_ind (Q := fun _ w' => HL w' ∧ RT c w w') (fun _ => ⟨hw, RT.refl c w⟩) (fun _ _ _ => ⟨hw, RT.refl c w⟩)
    (fun t env w1 hg _ hpoll => (polled hg hpoll).1) (fun t b w1 hg _ hpoll => ?_) h
  obtain ⟨k1, (hb : hostsLtB c b = true)⟩ := polled hg hpoll
  -- the polled task is put back with its new block, which hosts below `c` like the old one
  have k2 : HL (w1.modCmd c fun x => { x with tasks := x.tasks.set tid { t with fut := b } }) ∧
      RT c w (w1.modCmd c fun x => { x with tasks := x.tasks.set tid { t with fut := b } }) :=
    RT.step k1 fun h1 =>
      ⟨h1.modCmd_gen c _ (fun x t' ht' => (Slab.mem_values_set _ _ _ _ ht').symm.imp id fun e => by rw [e]; exact hb)
        (fun x t' ht' => Or.inl ht'), rt_modCmd w1 c _⟩
  have k3 : HL (parkTask c tid t w.nextSerial b w1) ∧ RT c w (parkTask c tid t w.nextSerial b w1) :=
    RT.step k2 (tk_woken _ _).hl_rt
  exact ⟨fun _ _ => k3, fun _ => k3⟩

theorem tk0_wakeAll (ks : List Waker) (w : World) : TK0 w (w.wakeAll ks) :=
  World.wakeAll_inv (J := TK0 w) (fun W k h => h.trans (tk_World_wake W k)) w ks (.refl w)

theorem finishTask_hl (c tid : Nat) (w : World) (hw : HL w) : HL (finishTask c tid w) ∧ RT c w (finishTask c tid w) := by
  cases hg : (w.cmd c).tasks.get? tid with
  | none => rw [finishTask_none hg]; exact ⟨hw, RT.refl c w⟩
  | some t =>
    rw [finishTask_some hg]
    have htl : hostsLtB c t.fut = true := hw.tasks c t (Slab.mem_values_of_get _ _ _ hg)
    have k1 : HL (w.modCmd c fun x => { x with tasks := ((w.cmd c).tasks.remove tid).2 }) ∧
        RT c w (w.modCmd c fun x => { x with tasks := ((w.cmd c).tasks.remove tid).2 }) :=
      ⟨hw.modCmd_gen c _ (fun x t' ht' => Or.inr (hw.tasks c t' (Slab.mem_values_remove _ tid _ ht')))
        (fun x t' ht' => Or.inl ht'), rt_modCmd w c _⟩
    exact RT.step (RT.step (RT.step k1 (tk_modMeta _ _ _).hl_rt) (tk0_wakeAll _ _).hl_rt)
      fun h3 => (World_dropTask_hl c _ t htl h3).imp_right PT.toRT

theorem spawnNewTasks_hl (c : Nat) (w : World) (hw : HL w) : HL (spawnNewTasks c w) ∧ RT c w (spawnNewTasks c w) :=
  spawnNewTasks_inv (J := fun W => HL W ∧ RT c w W)
    ⟨hw.modCmd_gen c _ (fun x t h => Or.inl h) (fun x t h => by simp at h), rt_modCmd w c _⟩
    fun W t ht k => RT.step k fun hW =>
      ⟨hW.modCmd_gen c _ (fun x t' ht' => (Slab.mem_values_insert _ _ _ ht').symm.imp id fun e => by rw [e]; exact hw.spawn c t ht)
        (fun x t' ht' => Or.inl ht'), rt_modCmd W c _⟩

theorem drainReady_hl (runTask) (hr : RunT runTask) (f c : Nat) (w w' : World) (h : drainReady runTask f c w = some w')
    (hw : HL w) : HL w' ∧ RT c w w' :=
  drainReady_inv (J := fun w1 => HL w1 ∧ RT c w w1)
    (fun _ _ k => hl_rt_modCmd _ (fun _ => rfl) (fun _ => rfl) k)
    (fun _ _ _ _ hrt k => RT.step k (hr _ _ _ _ _ hrt))
    (fun w1 tid k => RT.step k (finishTask_hl c tid w1)) f w w' h ⟨hw, RT.refl c w⟩

theorem runUntilSettledF_hl (runTask) (hr : RunT runTask) : SettleT (runUntilSettledF runTask) := by
  intro c w w' h hw
  refine runUntilSettledF_inv (J := fun w1 => HL w1 ∧ RT c w w1) ?_ (settleLoop_inv ?_ ?_) w w' h ⟨hw, RT.refl c w⟩
  · exact fun w1 _ k => RT.step (foldl_dropTask_hl _ c (dropOk_World c) _ (k.1.tasks c) k) fun hW =>
      ⟨hW.modCmd_gen c _ (fun x t ht => by simp [Slab.values] at ht) (fun x t ht => Or.inl ht), rt_modCmd _ c _⟩
  · exact fun w1 k => RT.step k (spawnNewTasks_hl c w1)
  · exact fun f w1 w2 hd k => RT.step k (drainReady_hl runTask hr f c w1 w2 hd)

theorem pollNextF_hl (settle) (hs : SettleT settle) : PnT (pollNextF settle) := by
  intro wk c w r w' h hw
  refine pollNextF_inv (J := fun w1 => HL w1 ∧ RT c w w1) ?_ (fun w1 w2 h1 k => RT.step k (hs _ _ _ h1)) ?_ ?_ w r w' h
    ⟨hw, RT.refl c w⟩
  · exact fun _ k => hl_rt_modCmd _ (fun _ => rfl) (fun _ => rfl) k
  · exact fun _ _ k => hl_rt_modCmd _ (fun _ => rfl) (fun _ => rfl) k
  · exact fun _ _ k => hl_rt_modCmd _ (fun _ => rfl) (fun _ => rfl) k

theorem pollAt_hl : ∀ d, PollT (pollAt d) :=
  pollAt_ind (fun wk p b w r w' h => by cases h) fun poll hp =>
    pollBlock_hgood _ (pollNextF_hl _ (runUntilSettledF_hl _ (runTaskF_hl _ hp))) loopFuel

theorem runTask_hl : RunT runTask := runTaskF_hl _ (pollAt_hl depthFuel)
theorem runUntilSettled_hl : SettleT runUntilSettled := runUntilSettledF_hl _ runTask_hl
theorem pollNext_hl : PnT pollNext := pollNextF_hl _ runUntilSettled_hl

end M.Rt
