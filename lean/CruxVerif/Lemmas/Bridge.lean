/- Lemmas about M.Bridge: registration hands out fresh, pairwise distinct ids and stores each resolve under its id;
   `resume` touches only the addressed entry. -/
import CruxVerif.Model.Bridge
import CruxVerif.Lemmas.Slab
import CruxVerif.Lemmas.Resolve
namespace M.Bridge
open M.Rt M.Slab

theorem registerAll_effects (reg : Slab Resolve) (effs : List Eff) : (registerAll reg effs).1.map (·.2) = effs := by
  induction effs generalizing reg with
  | nil => rfl
  | cons e es ih => simp [registerAll, ih]

theorem registerAll_wf (reg : Slab Resolve) (effs : List Eff) (h : WF reg) : WF (registerAll reg effs).2 := by
  induction effs generalizing reg with
  | nil => exact h
  | cons e es ih => simp only [registerAll]; exact ih _ (wf_insert reg e.res h)

theorem registerAll_keeps (reg : Slab Resolve) (effs : List Eff) (h : WF reg) (k : Nat) (hk : (reg.get? k).isSome) :
    (registerAll reg effs).2.get? k = reg.get? k := by
  induction effs generalizing reg with
  | nil => rfl
  | cons e es ih =>
    simp only [registerAll]
    have hne : k ≠ (reg.insert e.res).1 := fun e' => insert_ne_occupied reg e.res k h hk e'.symm
    have hkeep := get_insert_other reg e.res k hne
    rw [ih _ (wf_insert reg e.res h) (by rw [hkeep]; exact hk), hkeep]

theorem registerAll_ids (reg : Slab Resolve) (effs : List Eff) (h : WF reg) :
    ((registerAll reg effs).1.map (·.1)).Nodup ∧
    (∀ p ∈ (registerAll reg effs).1, reg.get? p.1 = none ∧ (registerAll reg effs).2.get? p.1 = some p.2.res) := by
  induction effs generalizing reg with
  | nil => simp [registerAll]
  | cons e es ih =>
    simp only [registerAll]
    have hwf := wf_insert reg e.res h
    obtain ⟨ihnd, ihall⟩ := ih (reg.insert e.res).2 hwf
    have hself := get_insert_self reg e.res h
    have hfresh := insert_fresh reg e.res h
    refine ⟨?_, ?_⟩
    · simp only [List.map_cons, List.nodup_cons]
      refine ⟨?_, ihnd⟩
      intro hin
      obtain ⟨p, hp, hpe⟩ := List.mem_map.mp hin
      have := (ihall p hp).1
      rw [hpe, hself] at this
      cases this
    · intro p hp
      rcases List.mem_cons.mp hp with rfl | hp
      · refine ⟨hfresh, ?_⟩
        simp only
        rw [registerAll_keeps _ _ hwf _ (by rw [hself]; rfl), hself]
      · obtain ⟨h1, h2⟩ := ihall p hp
        refine ⟨?_, h2⟩
        by_cases hpe : p.1 = (reg.insert e.res).1
        · rw [hpe, hself] at h1; cases h1
        · rw [← get_insert_other reg e.res p.1 hpe]; exact h1

theorem registerAll_avoids_occupied (reg : Slab Resolve) (effs : List Eff) (h : WF reg) (k : Nat)
    (hk : (reg.get? k).isSome) : k ∉ (registerAll reg effs).1.map (·.1) := by
  intro hin
  obtain ⟨p, hp, hpe⟩ := List.mem_map.mp hin
  have := ((registerAll_ids reg effs h).2 p hp).1
  rw [hpe] at this
  simp [this] at hk

theorem registerAll_entries (reg : Slab Resolve) (effs : List Eff) (h : WF reg) (k : Nat) (r : Resolve)
    (hk : (registerAll reg effs).2.get? k = some r) :
    reg.get? k = some r ∨ ∃ p ∈ (registerAll reg effs).1, p.1 = k ∧ p.2.res = r := by
  induction effs generalizing reg with
  | nil => exact Or.inl hk
  | cons e es ih =>
    simp only [registerAll] at hk ⊢
    rcases ih _ (wf_insert reg e.res h) hk with hold | ⟨p, hp, hpk, hpr⟩
    · by_cases hke : k = (reg.insert e.res).1
      · right
        refine ⟨((reg.insert e.res).1, e), by simp, hke.symm, ?_⟩
        rw [hke, get_insert_self reg e.res h] at hold
        exact Option.some.inj hold
      · left; rw [← get_insert_other reg e.res k hke]; exact hold
    · right; exact ⟨p, by simp [hp], hpk, hpr⟩

theorem resume_exact (reg : Slab Resolve) (id : Nat) (v : Val) (w : World) (r : Resolve) (hg : reg.get? id = some r) :
    (resume reg id (some v) w).2.2 = (resolveReq r v w).2.2 ∧
    ((resume reg id (some v) w).1 = .ok ↔ (resolveReq r v w).2.1 = .ok) := by
  unfold resume
  simp only [hg]
  cases r with
  | never => simp [resolveReq]
  | gone => simp [resolveReq]
  | once l => simp [(resolve_once_consumes l v w).2]
  | many l =>
    simp only
    split <;> simp_all

theorem resume_other (reg : Slab Resolve) (id k : Nat) (d : Option Val) (w : World) (hk : k ≠ id) :
    (resume reg id d w).2.1.get? k = reg.get? k := by
  unfold resume
  cases hg : reg.get? id with
  | none => simp
  | some r =>
    have hrem := (remove_get reg id r hg).2.2 k hk
    cases r <;> cases d <;> simp [hrem] <;> (try split) <;> simp [hrem]

/-- an id that is not outstanding makes `resume` panic (registry.rs:60-63, FIXME in the code) -/
theorem resume_unknown_panics (reg : Slab Resolve) (id : Nat) (d : Option Val) (w : World) (hg : reg.get? id = none) :
    resume reg id d w = (.panic, reg, w) := by
  unfold resume; simp [hg]

theorem resume_removes (reg : Slab Resolve) (id : Nat) (d : Option Val) (w : World) (r : Resolve)
    (hg : reg.get? id = some r) :
    (∀ l, r ≠ .many l) → (resume reg id d w).2.1.get? id = none := by
  intro hnm
  have hrem := (remove_get reg id r hg).2.1
  unfold resume
  simp only [hg]
  cases r with
  | never => simpa using hrem
  | gone => simpa using hrem
  | once l => cases d <;> simpa using hrem
  | many l => exact absurd rfl (hnm l)

theorem resume_wf (reg : Slab Resolve) (id : Nat) (d : Option Val) (w : World) (h : WF reg) : WF (resume reg id d w).2.1 := by
  unfold resume
  cases hg : reg.get? id with
  | none => exact h
  | some r =>
    cases r <;> cases d <;> simp only <;> first | exact wf_remove reg id h | exact h | (split <;> exact h)

theorem processEvent_some (b : Bridge) (ev : Ev) (effs : List Eff) (core : Core)
    (h : M.Rt.processEvent ev b.core = some (effs, core)) :
    processEvent b (some ev) =
      some (.ok (registerAll b.registry effs).1, { core := core, registry := (registerAll b.registry effs).2 }) := by
  simp [processEvent, h]

/-- C12: a byte string that does not decode as an event leaves the bridge exactly as it was -/
theorem rejected_event_inert (b : Bridge) : processEvent b none = some (.error .deserializeEvent, b) := rfl

/-- C12: a response that does not decode, addressed to a stream request, changes nothing at all -/
theorem rejected_response_many (reg : Slab Resolve) (id l : Nat) (w : World) (hg : reg.get? id = some (.many l)) :
    resume reg id none w = (.err .deserializeOutput, reg, w) := by
  unfold resume; simp [hg]

/-- C12: … addressed to a one-shot request it consumes that request only: its entry is removed and its channel closed -/
theorem rejected_response_once (reg : Slab Resolve) (id l : Nat) (w : World) (hg : reg.get? id = some (.once l)) :
    resume reg id none w = (.err .deserializeOutput, (reg.remove id).2, w.dropSender l) := by
  unfold resume; simp [hg]

end M.Bridge
