/- Well-formedness of stored blocks under the Core host (commands' tasks, the executor's legacy tasks, its spawn queue). -/
import CruxVerif.Lemmas.RRun
import CruxVerif.Lemmas.BridgeInv
namespace M.Rt

structure WFC (k : Core) : Prop where
  w : WFw k.w
  t : ∀ b, ExecTask.legacy b ∈ k.execTasks.values → inR (LL k.w) b
  s : ∀ b, ExecTask.legacy b ∈ k.w.execSpawn → inR (LL k.w) b

theorem WFC.world {k : Core} (h : WFC k) (w' : World) (hw : WStep k.w w')
    (hs : ∀ b, ExecTask.legacy b ∈ w'.execSpawn → ExecTask.legacy b ∈ k.w.execSpawn ∨ inR (LL w') b) : WFC { k with w := w' } :=
  ⟨hw.1, fun b hb => (h.t b hb).mono hw.2, fun b hb => (hs b hb).elim (fun h' => (h.s b h').mono hw.2) id⟩

theorem WFC.tasks {k : Core} (h : WFC k) (es : Slab ExecTask)
    (ht : ∀ b, ExecTask.legacy b ∈ es.values → ExecTask.legacy b ∈ k.execTasks.values ∨ inR (LL k.w) b) :
    WFC { k with execTasks := es } :=
  ⟨h.w, fun b hb => (ht b hb).elim (h.t b) id, h.s⟩

theorem WFC.of_fields {k k' : Core} (h : WFC k) (hc : k'.w.cmds = k.w.cmds) (hl : LL k'.w = LL k.w)
    (hs : k'.w.execSpawn = k.w.execSpawn) (ht : k'.execTasks = k.execTasks) : WFC k' :=
  ⟨h.w.same hc hl, by rw [ht, hl]; exact h.t, by rw [hs, hl]; exact h.s⟩

theorem spawnerLoop_wf (f etid cid : Nat) (w : World) (d : Bool) (w' : World) (h : spawnerLoop f etid cid w = some (d, w'))
    (hw : WFw w) : WStep w w' ∧ w'.execSpawn = w.execSpawn :=
  spawnerLoop_inv (J := fun W => WStep w W ∧ W.execSpawn = w.execSpawn)
    (fun _ _ _ hp k => ⟨k.1.step (pollNext_w _ _ _ _ _ hp), (es_of_X (pollNext_x _ _ _ _ _ hp)).trans k.2⟩)
    (fun _ e k => ⟨k.1.eq (yw_sinkEffect .core e) rfl, k.2⟩) (fun _ e k => ⟨k.1.eq (yw_sinkEvent .core e) rfl, k.2⟩)
    (fun w1 k => ⟨k.1.eq (yw_dropCmd cid) (LL_World_dropCmd w1 cid), (es_dropCmd w1 cid).trans k.2⟩)
    f w d w' h ⟨WStep.refl hw, rfl⟩

theorem execRunTask_wf (etid : Nat) (k : Core) (st : RunTask) (k' : Core) (h : execRunTask etid k = some (st, k'))
    (hk : WFC k) : WFC k' := by
  have ran : ∀ cid (d : Bool) (w1 : World), spawnerLoop loopFuel etid cid k.w = some (d, w1) → WFC { k with w := w1 } :=
    fun cid d w1 hs => hk.world w1 (spawnerLoop_wf _ _ _ _ _ _ hs hk.w).1
      (fun b hb => Or.inl ((spawnerLoop_wf _ _ _ _ _ _ hs hk.w).2 ▸ hb))
  have polled : ∀ b (r : PollRes) (w1 : World), k.execTasks.get? etid = some (.legacy b) →
      pollAt depthFuel (.root etid) .core b k.w = some (r, w1) → WFC { k with w := w1 } ∧ rangeRes w1 r := by
    intro b r w1 hg hp
    have p := pollAt_w depthFuel _ _ _ _ _ _ hp hk.w (hk.t b (Slab.mem_values_of_get _ _ _ hg))
    exact ⟨hk.world w1 p.1 fun _ hb => p.2.2 _ hb, p.2.1⟩
  refine execRunTask_ind (Q := fun _ k' => WFC k') (fun _ => hk) (fun cid w1 _ hs => ?_) (fun cid w1 _ hs => ran cid _ w1 hs)
    (fun b env w1 hg hp => ?_) (fun b b' w1 hg hp => ?_) h
  · exact (ran cid _ w1 hs).tasks _ fun b hb => Or.inl (Slab.mem_values_remove _ _ _ hb)
  · exact (polled b _ w1 hg hp).1.tasks _ fun b' hb' => Or.inl (Slab.mem_values_remove _ _ _ hb')
  · refine (polled b _ w1 hg hp).1.tasks _ fun b2 hb2 => ?_
    rcases Slab.mem_values_set _ _ _ _ hb2 with e | h'
    · cases e; exact Or.inr (polled b _ w1 hg hp).2
    · exact Or.inl h'

theorem WFC.popSpawn {k : Core} (hk : WFC k) {t : ExecTask} {rest : List ExecTask} (hsp : k.w.execSpawn = t :: rest) :
    WFC { k with w := { k.w with execSpawn := rest }, execTasks := (k.execTasks.insert t).2 } := by
  refine ⟨hk.w.same rfl rfl, fun b hb => ?_, fun b hb => hk.s b (by rw [hsp]; exact List.mem_cons_of_mem _ hb)⟩
  rcases Slab.mem_values_insert _ _ _ hb with e | hb
  · exact hk.s b (by rw [hsp, ← e]; exact List.mem_cons_self)
  · exact hk.t b hb

theorem runAll_wf : ∀ (f : Nat) (k k' : Core), runAll f k = some k' → WFC k → WFC k' :=
  runAll_inv (execDrainSpawn_inv fun _ _ _ _ _ hk hsp hr => execRunTask_wf _ _ _ _ hr (hk.popSpawn hsp))
    (execDrainReady_inv fun _ _ _ _ _ hk _ hr => execRunTask_wf _ _ _ _ hr (hk.of_fields rfl rfl rfl rfl))

theorem WFC.spawnLegacy {k : Core} (hk : WFC k) (env : Env) (he : envOk (LL k.w).2 env = true) (ls : List (List Instr)) :
    WFC { k with w := { k.w with execSpawn := k.w.execSpawn ++ ls.map fun is => ExecTask.legacy (.mk env .idle is) } } := by
  refine hk.world _ ⟨hk.w.same rfl rfl, LLe.refl _⟩ fun b hb => ?_
  rcases List.mem_append.mp hb with hb | hb
  · exact Or.inl hb
  · obtain ⟨is, _, e⟩ := List.mem_map.mp hb
    cases e; exact Or.inr (inR_idle he is)

theorem WFC.spawnCmd {k : Core} (hk : WFC k) {w' : World} (hb : BW k.w w') (hx : X w' = X k.w) (c : Nat) (lg : List Ev) :
    WFC { k with w := { w' with execSpawn := w'.execSpawn ++ [.cmd c] }, log := lg } := by
  refine (hk.of_fields (k' := { k with log := lg }) rfl rfl rfl rfl).world _ ⟨hb.wf.same rfl rfl, Nat.le_of_eq hb.l.symm, hb.m⟩
    fun b hb => ?_
  rcases List.mem_append.mp hb with hb | hb
  · exact Or.inl (es_of_X hx ▸ hb)
  · cases List.mem_singleton.mp hb

theorem updateWith_wf (ev : Ev) (cmd : Cmd) (ls : List (List Instr)) (k : Core) (hk : WFC k) : WFC (updateWith ev cmd ls k) :=
  have h0 := hk.spawnLegacy { vars := [(0, ev.v)] } rfl ls
  h0.spawnCmd (instantiate_bw _ cmd _ h0.w rfl) (X_instantiate _ cmd _) _ _

theorem update_wf (ev : Ev) (k : Core) (hk : WFC k) : WFC (update ev k) := by
  rcases update_cases ev k with ⟨_, cmd, ls, _, e⟩ | e <;> rw [e] <;> exact updateWith_wf ev _ _ k hk

theorem process_wf : ∀ (k : Core) (es : List Eff) (k' : Core), process k = some (es, k') → WFC k → WFC k' :=
  process_inv runAll_wf
    (processLoop_inv (fun _ ev _ hk _ => update_wf ev _ (hk.of_fields rfl rfl rfl rfl)) runAll_wf)
    (fun _ hk => hk.of_fields rfl rfl rfl rfl)

end M.Rt

namespace M.Hosts
open M.Rt

theorem WFC.shell {k : Core} (hk : WFC k) {w' : World} (hw : WFw w') (hl : LL w' = LL k.w) (hx : X w' = X k.w) :
    WFC { k with w := w' } :=
  hk.world w' ⟨hw, LLe.of_eq hl⟩ fun _ hb => Or.inl (es_of_X hx ▸ hb)

theorem WFC_ops : CoreOps WFC where
  pe := fun ev k es k' h hk => process_wf _ es k' h (update_wf ev k hk)
  pr := process_wf
  res := fun k r v hk => WFC.shell hk (WFw_shell.res k.w r v hk.w) (LL_resolveReq r v k.w) (X_resolveReq r v k.w)
  ds := fun k l hk => WFC.shell hk (WFw_shell.ds k.w l hk.w) (LL_dropSender k.w l) (X_dropSender k.w l)
  ab := fun k n hk => WFC.shell hk (WFw_shell.ab k.w n hk.w)
    (doAbort_inv (J := fun W => LL W = LL k.w) (fun W c h => (LL_abortCmd W c).trans h) n k.w rfl) (X_doAbort n k.w)

theorem WFC_init (prog : Prog) : WFC ({ prog := prog } : Core) :=
  ⟨WFw_empty, fun b hb => by simp [Slab.values] at hb, fun b hb => by cases hb⟩

end M.Hosts
