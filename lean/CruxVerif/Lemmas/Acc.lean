/-
C13, first clause over whole runs — the accounting invariant of task futures: every task future that is alive
(`Meta.taskAlive`, the model's drop guard) belongs to a task that is STORED in the command's slab or waiting in its spawn
queue. Nothing is kept anywhere else, so the number of live futures is bounded by what the slab and the queue hold.
-/
import CruxVerif.Lemmas.LQ
import CruxVerif.Lemmas.Futures
namespace M.Rt
open M.Hosts

def Stored (c : Nat) (w : World) (s : Nat) : Prop :=
  (∃ tid t, (w.cmd c).tasks.get? tid = some t ∧ t.serial = s) ∨ (∃ t ∈ (w.cmd c).spawnQ, t.serial = s)

/-- every live task future is stored -/
def Acc (c : Nat) (w : World) : Prop :=
  c < w.cmds.length ∧ Slab.WF (w.cmd c).tasks ∧ ∀ s, s < w.metas.length → (w.getMeta s).taskAlive = true → Stored c w s

/-- what `Acc` reads of the commands of a world -/
structure SameTS (c : Nat) (w w' : World) : Prop where
  tasks : (w'.cmd c).tasks = (w.cmd c).tasks
  spawnQ : (w'.cmd c).spawnQ = (w.cmd c).spawnQ
  len : w'.cmds.length = w.cmds.length

theorem Acc.of_same {c : Nat} {w w' : World} (h : Acc c w) (hs : SameTS c w w') (hm : w'.metas = w.metas) : Acc c w' := by
  refine ⟨by rw [hs.len]; exact h.1, by rw [hs.tasks]; exact h.2.1, ?_⟩
  intro s hl ha
  rw [hm] at hl
  rw [getMeta_of_metas hm] at ha
  rcases h.2.2 s hl ha with ⟨tid, t, hg, e⟩ | ⟨t, ht, e⟩
  · exact Or.inl ⟨tid, t, by rw [hs.tasks]; exact hg, e⟩
  · exact Or.inr ⟨t, by rw [hs.spawnQ]; exact ht, e⟩

theorem SameTS.refl (c : Nat) (w : World) : SameTS c w w := ⟨rfl, rfl, rfl⟩
theorem SameTS.trans {c : Nat} {w1 w2 w3 : World} (a : SameTS c w1 w2) (b : SameTS c w2 w3) : SameTS c w1 w3 :=
  ⟨b.tasks.trans a.tasks, b.spawnQ.trans a.spawnQ, b.len.trans a.len⟩

theorem same_of_cmds {c : Nat} {w w' : World} (hc : w'.cmds = w.cmds) : SameTS c w w' :=
  ⟨by simp only [World.cmd, hc], by simp only [World.cmd, hc], by rw [hc]⟩

theorem same_modCmd (c : Nat) (w : World) (c' : Nat) (f : CmdSt → CmdSt) (hf : ∀ x, (f x).tasks = x.tasks)
    (hs : ∀ x, (f x).spawnQ = x.spawnQ) : SameTS c w (w.modCmd c' f) :=
  ⟨World.cmd_modCmd_keep (·.tasks) hf w c' c, World.cmd_modCmd_keep (·.spawnQ) hs w c' c, (World.modCmd_frame w c' f).1⟩

theorem same_wake (c : Nat) (f : Nat) (wk : Waker) (w : World) : SameTS c w (wake f wk w) :=
  wake_inv (J := SameTS c w) (fun w1 c' _ h => h.trans (same_modCmd c w1 c' _ (fun _ => rfl) (fun _ => rfl)))
    (fun w1 c' h => h.trans (same_modCmd c w1 c' _ (fun _ => rfl) (fun _ => rfl))) (fun _ _ h => h.trans (same_of_cmds rfl))
    (fun _ _ h => h.trans (same_of_cmds rfl)) (fun _ _ h => h.trans (same_of_cmds rfl)) f wk w (SameTS.refl c w)

section
variable {c : Nat} {w : World}

theorem acc_modLeaf (l : Nat) (f : Leaf → Leaf) (h : Acc c w) : Acc c (w.modLeaf l f) := h.of_same (same_of_cmds rfl) rfl
theorem acc_execSpawn (xs : List ExecTask) (h : Acc c w) : Acc c ({ w with execSpawn := xs } : World) :=
  h.of_same (same_of_cmds rfl) rfl
theorem acc_wake (k : Waker) (h : Acc c w) : Acc c (w.wake k) := h.of_same (same_wake c _ k w) (wake_metas _ k w)

theorem acc_modMeta (s : Nat) (f : Meta → Meta) (hf : ∀ m, (f m).taskAlive = m.taskAlive) (h : Acc c w) :
    Acc c (w.modMeta s f) := by
  refine ⟨h.1, h.2.1, ?_⟩
  intro s' hl ha
  have hl' : s' < w.metas.length := by simpa [World.modMeta, modifyNth_length] using hl
  rw [World.getMeta_modMeta] at ha
  split at ha
  · rw [hf] at ha; exact h.2.2 s' hl' ha
  · exact h.2.2 s' hl' ha

theorem acc_abortCmd (c' : Nat) (h : Acc c w) : Acc c (w.abortCmd c') :=
  World.abortCmd_inv (J := Acc c) (fun _ _ h => acc_modMeta _ _ (fun _ => rfl) h)
    (fun W h => h.of_same (same_modCmd c W c' (fun x => { x with waker := none }) (fun _ => rfl) (fun _ => rfl)) rfl)
    (fun _ k h => acc_wake k h) w h

theorem acc_spawn (b : Block) (h : Acc c w) : Acc c (w.newMeta.2.modCmd c (addSpawn ⟨w.newMeta.1, b⟩)) := by
  obtain ⟨hc, hwf, h⟩ := h
  have hcmd : ∃ x, w.cmds[c]? = some x := ⟨w.cmds[c], by simp [hc]⟩
  obtain ⟨x, hx⟩ := hcmd
  have hnew : (w.newMeta.2.modCmd c (addSpawn ⟨w.newMeta.1, b⟩)).cmd c = addSpawn ⟨w.metas.length, b⟩ x := by
    rw [World.cmd_modCmd_self]
    simp [World.newMeta, hx]
  have hold : w.cmd c = x := by simp [World.cmd, hx]
  refine ⟨by simpa [World.modCmd, World.newMeta, modifyNth_length] using hc, by rw [hnew]; rw [hold] at hwf; exact hwf, ?_⟩
  intro s hl ha
  have hl2 : s < w.metas.length + 1 := by simpa [World.modCmd, World.newMeta] using hl
  unfold Stored
  rw [hnew]
  by_cases e : s < w.metas.length
  · have ha' : (w.getMeta s).taskAlive = true := by
      have : (w.newMeta.2.modCmd c (addSpawn ⟨w.newMeta.1, b⟩)).getMeta s = w.getMeta s := World.getMeta_newMeta w s
      rwa [this] at ha
    rcases h s e ha' with ⟨tid, t, hg, et⟩ | ⟨t, ht, et⟩
    · exact Or.inl ⟨tid, t, by rw [hold] at hg; simpa [addSpawn] using hg, et⟩
    · exact Or.inr ⟨t, by rw [hold] at ht; simp [addSpawn, ht], et⟩
  · have : s = w.metas.length := by omega
    subst this
    exact Or.inr ⟨⟨w.metas.length, b⟩, by simp [addSpawn], rfl⟩

end

theorem acc_ops (c : Nat) (wk : Waker) : PollOps wk (.cmd c) (Acc c) where
  event w e h := h.of_same (same_modCmd c w c _ (fun _ => rfl) (fun _ => rfl)) rfl
  effect w e h := h.of_same (same_modCmd c w c _ (fun _ => rfl) (fun _ => rfl)) rfl
  newLeaf w lg h := h.of_same (same_of_cmds rfl) rfl
  spawn w c' b hs _ h := by cases hs; exact acc_spawn b h
  legacy w b hs := nomatch hs
  abortTask w s h := acc_modMeta s _ (fun _ => rfl) h
  abortCmd w c' h := acc_abortCmd c' h
  dropReceiver w l h := acc_modLeaf l _ h
  setWaker w l _ h := acc_modLeaf l _ h
  setQueue w l q h := acc_modLeaf l _ h
  join w s h := acc_modMeta s _ (fun _ => rfl) h
  wake w h := acc_wake wk h

theorem acc_setTask (c tid : Nat) (t t' : Task) (w : World) (hg : (w.cmd c).tasks.get? tid = some t)
    (hs : t'.serial = t.serial) (h : Acc c w) : Acc c (w.modCmd c fun x => { x with tasks := x.tasks.set tid t' }) := by
  obtain ⟨hc, hwf, h⟩ := h
  have hnew : (w.modCmd c fun x => { x with tasks := x.tasks.set tid t' }).cmd c =
      { w.cmd c with tasks := (w.cmd c).tasks.set tid t' } := by
    rw [cmd_modCmd_lt hc]
  refine ⟨by simpa [World.modCmd, modifyNth_length] using hc, by rw [hnew]; exact Slab.wf_set _ _ _ hwf, ?_⟩
  intro s hl ha
  unfold Stored
  rw [hnew]
  rcases h s hl ha with ⟨tid0, t0, hg0, e⟩ | ⟨t0, ht0, e⟩
  · by_cases ee : tid0 = tid
    · subst ee
      rw [hg] at hg0; cases hg0
      exact Or.inl ⟨tid0, t', Slab.get_set_self _ _ _ _ hg, by rw [hs]; exact e⟩
    · exact Or.inl ⟨tid0, t0, by simp only; rw [Slab.get_set_other _ _ _ _ ee]; exact hg0, e⟩
  · exact Or.inr ⟨t0, ht0, e⟩

theorem runTaskF_acc (pn) (f : Nat) (c tid : Nat) (w : World) (st : TaskState) (w' : World)
    (h : runTaskF (pollBlock pn f) c tid w = some (st, w')) (hw : HFc c w) (ha : Acc c w) : Acc c w' := by
  have poll : ∀ {t r w1}, (w.cmd c).tasks.get? tid = some t →
      pollBlock pn f (.task c tid w.nextSerial) (.cmd c) t.fut { w with nextSerial := w.nextSerial + 1 } = some (r, w1) →
      Acc c w1 ∧ (w1.cmd c).tasks.get? tid = some t := fun hg hp =>
    have htf := hw.t _ (Slab.mem_values_of_get _ _ _ hg)
    ⟨pollBlock_inv pn (acc_ops c _) f _ _ _ _ hp htf (ha.of_same (same_of_cmds rfl) rfl),
      by rw [(pollBlock_tgood pn f (fun _ _ => True) _ _ _ _ _ _ hp htf (fun _ _ _ _ => trivial)).tasks c]; exact hg⟩
  refine runTaskF_ind (Q := fun _ w' => Acc c w') (fun _ => ha) (fun _ _ _ => ha) (fun t env w1 hg _ hp => (poll hg hp).1) ?_ h
  intro t b w1 hg _ hp
  have : Acc c (parkTask c tid t w.nextSerial b w1) :=
    (acc_setTask c tid t { t with fut := b } w1 (poll hg hp).2 rfl (poll hg hp).1).of_same (same_of_cmds rfl) rfl
  exact ⟨fun _ _ => this, fun _ => this⟩

theorem dropTask_cmds (w : World) (t : Task) (ht : hostFreeB t.fut = true) : (w.dropTask t).cmds = w.cmds :=
  (dropBlock_keeps _ t.fut _ ht).2.2.2

theorem finishTask_acc (c tid : Nat) (w : World) (hw : HFc c w) (ha : Acc c w) : Acc c (finishTask c tid w) := by
  cases hg : (w.cmd c).tasks.get? tid with
  | none => rw [finishTask_none hg]; exact ha
  | some t =>
    have htf := hw.t t (Slab.mem_values_of_get _ _ _ hg)
    obtain ⟨hc, hwf, h⟩ := ha
    have hs : SameTS c (w.modCmd c fun x => { x with tasks := ((w.cmd c).tasks.remove tid).2 }) (finishTask c tid w) := by
      rw [finishTask_some hg]
      generalize (w.modCmd c fun x => { x with tasks := ((w.cmd c).tasks.remove tid).2 }) = w1
      have s2 : SameTS c w1 (w1.modMeta t.serial fun m => { m with finished := true, joinWakers := [] }) := same_of_cmds rfl
      exact (World.wakeAll_inv (J := SameTS c w1) (fun _ k h => h.trans (same_wake c _ k _)) _ _ s2).trans
        (same_of_cmds (dropTask_cmds _ t htf))
    have hlen : (finishTask c tid w).metas.length = w.metas.length := by
      rw [finishTask_some hg, dropTask_metas_length _ t htf, (wakeAll_lm _ _).2]
      exact modifyNth_length _ _ _
    have ec := cmd_modCmd_lt hc fun x => { x with tasks := ((w.cmd c).tasks.remove tid).2 }
    refine ⟨by rw [hs.len]; simpa [World.modCmd, modifyNth_length] using hc,
      by rw [hs.tasks, ec]; exact Slab.wf_remove _ _ hwf, ?_⟩
    intro s hl halive
    rw [hlen] at hl
    have hne : s ≠ t.serial := fun e => by
      rw [e, (finishTask_future c tid w t hg htf (e ▸ hl)).1] at halive; cases halive
    rw [finishTask_future_other c tid w t hg htf s hne] at halive
    unfold Stored
    rw [hs.tasks, hs.spawnQ, ec]
    rcases h s hl halive with ⟨tid0, t0, hg0, e⟩ | ⟨t0, ht0, e⟩
    · have : tid0 ≠ tid := by
        intro ee; subst ee; rw [hg] at hg0; cases hg0; exact hne e.symm
      exact Or.inl ⟨tid0, t0, by rw [(Slab.remove_get _ _ _ hg).2.2 tid0 this]; exact hg0, e⟩
    · exact Or.inr ⟨t0, ht0, e⟩

/-- `Acc` while the spawn queue is being moved into the slab: `l` = what is still to be inserted -/
def AccL (c : Nat) (l : List Task) (w : World) : Prop :=
  c < w.cmds.length ∧ Slab.WF (w.cmd c).tasks ∧ (w.cmd c).spawnQ = [] ∧
    ∀ s, s < w.metas.length → (w.getMeta s).taskAlive = true →
      (∃ tid t, (w.cmd c).tasks.get? tid = some t ∧ t.serial = s) ∨ (∃ t ∈ l, t.serial = s)

theorem spawn_fold_acc (c : Nat) : ∀ (l : List Task) (W : World), AccL c l W →
    AccL c [] (l.foldl (fun w t => w.modCmd c fun x =>
      { x with tasks := (x.tasks.insert t).2, ready := x.ready ++ [(x.tasks.insert t).1] }) W) := by
  intro l
  induction l with
  | nil => intro W h; exact h
  | cons t l ih =>
    intro W h
    simp only [List.foldl_cons]
    apply ih
    obtain ⟨hc, hwf, hq, h⟩ := h
    have hnew : (W.modCmd c fun x => { x with tasks := (x.tasks.insert t).2, ready := x.ready ++ [(x.tasks.insert t).1] }).cmd c =
        { W.cmd c with tasks := ((W.cmd c).tasks.insert t).2, ready := (W.cmd c).ready ++ [((W.cmd c).tasks.insert t).1] } := by
      rw [cmd_modCmd_lt hc]
    refine ⟨by simpa [World.modCmd, modifyNth_length] using hc, by rw [hnew]; exact Slab.wf_insert _ _ hwf,
      by rw [hnew]; exact hq, ?_⟩
    intro s hl ha
    rw [hnew]
    rcases h s hl ha with ⟨tid0, t0, hg0, e⟩ | ⟨t0, ht0, e⟩
    · have hne : tid0 ≠ ((W.cmd c).tasks.insert t).1 :=
        fun ee => Slab.insert_ne_occupied _ t tid0 hwf (by rw [hg0]; rfl) ee.symm
      exact Or.inl ⟨tid0, t0, by simp only; rw [Slab.get_insert_other _ _ _ hne]; exact hg0, e⟩
    · rcases List.mem_cons.mp ht0 with ee | ee
      · subst ee
        exact Or.inl ⟨_, t0, by simp only; exact Slab.get_insert_self _ _ hwf, e⟩
      · exact Or.inr ⟨t0, ee, e⟩

theorem spawnNewTasks_acc (c : Nat) (w : World) (ha : Acc c w) : Acc c (spawnNewTasks c w) := by
  unfold spawnNewTasks
  obtain ⟨hc, hwf, h⟩ := ha
  have hnew : (w.modCmd c fun x => { x with spawnQ := [] }).cmd c = { w.cmd c with spawnQ := [] } := by
    rw [cmd_modCmd_lt hc]
  have h0 : AccL c (w.cmd c).spawnQ (w.modCmd c fun x => { x with spawnQ := [] }) := by
    refine ⟨by simpa [World.modCmd, modifyNth_length] using hc, by rw [hnew]; exact hwf, by rw [hnew], ?_⟩
    intro s hl ha
    rw [hnew]
    exact h s hl ha
  obtain ⟨r1, r2, _, r4⟩ := spawn_fold_acc c _ _ h0
  refine ⟨r1, r2, ?_⟩
  intro s hl ha
  rcases r4 s hl ha with x | ⟨t, ht, _⟩
  · exact Or.inl x
  · cases ht

theorem dropAll_guards : ∀ (ts : List Task) (w : World), (∀ t ∈ ts, hostFreeB t.fut = true) →
    (ts.foldl (fun w t => w.dropTask t) w).metas.length = w.metas.length ∧
    (ts.foldl (fun w t => w.dropTask t) w).cmds = w.cmds ∧
    (∀ s, s < w.metas.length → ((ts.foldl (fun w t => w.dropTask t) w).getMeta s).taskAlive = true →
      (w.getMeta s).taskAlive = true ∧ ∀ t ∈ ts, t.serial ≠ s)
  | [], w, _ => ⟨rfl, rfl, fun _ _ h => ⟨h, fun t ht => (nomatch ht)⟩⟩
  | t :: ts, w, h => by
    have ht := h t (List.mem_cons_self ..)
    have hlen := dropTask_metas_length w t ht
    have ih := dropAll_guards ts (w.dropTask t) (fun t' ht' => h t' (List.mem_cons_of_mem _ ht'))
    simp only [List.foldl_cons]
    refine ⟨by rw [ih.1, hlen], by rw [ih.2.1, dropTask_cmds w t ht], ?_⟩
    intro s hs ha
    obtain ⟨h1, h2⟩ := ih.2.2 s (by rw [hlen]; exact hs) ha
    have hne : s ≠ t.serial := by
      intro e; subst e
      rw [(dropTask_future w t ht hs).1] at h1; cases h1
    rw [dropTask_future_other w t ht s hne] at h1
    refine ⟨h1, ?_⟩
    intro t' ht'
    rcases List.mem_cons.mp ht' with e | e
    · subst e; exact fun e => hne e.symm
    · exact h2 t' e

theorem runUntilSettledF_acc (pn) (pf : Nat) (c : Nat) (w w' : World)
    (h : runUntilSettledF (runTaskF (pollBlock pn pf)) c w = some w') (hw : HFc c w) (hq : Acc c w) : Acc c w' := by
  refine runUntilSettledF_hf (fun w _ hq => hq.of_same (same_modCmd c w c _ (fun _ => rfl) (fun _ => rfl)) rfl)
    (fun w tid => runTaskF_acc pn pf c tid w) (fun w tid => finishTask_acc c tid w) (fun w _ hq => spawnNewTasks_acc c w hq)
    ?_ w w' h hw hq
  intro w _ hw hq
  obtain ⟨hc, hwf, hs⟩ := hq
  obtain ⟨g1, g2, g3⟩ := dropAll_guards (w.cmd c).tasks.values w hw.t
  generalize hW : (w.cmd c).tasks.values.foldl (fun w t => w.dropTask t) w = W at g1 g2 g3
  have hc' : c < W.cmds.length := by rw [g2]; exact hc
  have hnew : (W.modCmd c fun x => { x with tasks := {} }).cmd c = { w.cmd c with tasks := {} } := by
    rw [cmd_modCmd_lt hc']
    simp only [World.cmd, g2]
  refine ⟨by simpa [World.modCmd, modifyNth_length] using hc', by rw [hnew]; exact Slab.wf_empty, ?_⟩
  intro s hl ha
  have hl' : s < w.metas.length := by rw [← g1]; exact hl
  obtain ⟨a1, a2⟩ := g3 s hl' ha
  unfold Stored
  rw [hnew]
  rcases hs s hl' a1 with ⟨tid0, t0, hg0, e⟩ | ⟨t0, ht0, e⟩
  · exact absurd e (a2 t0 (Slab.mem_values_of_get _ _ _ hg0))
  · exact Or.inr ⟨t0, ht0, e⟩

theorem runUntilSettled_acc (c : Nat) (w w' : World) (h : runUntilSettled c w = some w') (hw : HFc c w) (hq : Acc c w) :
    Acc c w' :=
  runUntilSettledF_acc _ _ c w w' h hw hq

end M.Rt

namespace M.Hosts
open M.Rt

theorem acc_dropSender (c : Nat) (w : World) (l : Nat) (hq : Acc c w) : Acc c (w.dropSender l) :=
  World.dropSender_inv (J := Acc c) (fun _ h => acc_modLeaf l _ h) (fun _ h => acc_modLeaf l _ h) (fun _ k h => acc_wake k h) w hq

theorem acc_shellOps (c : Nat) : ShellOps (Acc c) where
  res w r v h := resolveReq_inv (J := Acc c)
    (fun w l _ _ hq => World.deliver_inv (fun _ h => acc_modLeaf l _ h) (fun _ k h => acc_wake k h) w hq) (acc_dropSender c) r v w h
  ds := acc_dropSender c
  ab w n h := doAbort_inv (fun _ c' h => acc_abortCmd c' h) n w h

/-- `GL` together with the accounting of task futures -/
def AG (d : Direct) : Prop := GL d ∧ Acc d.cid d.w

theorem AG.directOps : DirectOps fun cid w => (GInv cid w ∧ LQ w) ∧ Acc cid w where
  settle cid w w' h g := ⟨GL.directOps.settle cid w w' h g.1, runUntilSettled_acc cid w w' h g.1.1.ctx.own.hfc g.2⟩
  effs cid w g := ⟨GL.directOps.effs cid w g.1, g.2.of_same (same_modCmd cid w cid _ (fun _ => rfl) (fun _ => rfl)) rfl⟩
  evs cid w g := ⟨GL.directOps.evs cid w g.1, g.2.of_same (same_modCmd cid w cid _ (fun _ => rfl) (fun _ => rfl)) rfl⟩
  shell cid := (GL.directOps.shell cid).and (acc_shellOps cid)

theorem Acc_init (is : List Instr) (canon : Bool) :
    Acc (Direct.new (.task is) canon).cid (Direct.new (.task is) canon).w := by
  unfold Direct.new
  simp only [instantiate, newCmd, World.newMeta]
  refine ⟨by simp, ?_, ?_⟩
  · simp only [World.cmd, List.nil_append, List.length_nil, List.getElem?_cons_zero, Option.getD_some]
    exact Slab.wf_insert _ _ Slab.wf_empty
  · intro s hl _
    have : s = 0 := by simp at hl; omega
    subst this
    refine Or.inl ⟨((Slab.empty : Slab Task).insert ⟨0, .mk {} .idle is⟩).1, ⟨0, .mk {} .idle is⟩, ?_, rfl⟩
    simp only [World.cmd, List.nil_append, List.length_nil, List.getElem?_cons_zero, Option.getD_some]
    exact Slab.get_insert_self _ _ Slab.wf_empty

/-- **Every live task future is stored — over whole runs** (host-free task programs under the direct host), together with the
    parking invariant and "a registered waker means a live sender". -/
theorem runDirect_ag (is : List Instr) (hf : hostFreeIs is = true) (canon : Bool) (acts : List Action) (os : List Obs)
    (d : Direct) (h : runDirect (.task is) canon acts = some (os, d)) : AG d :=
  (runDirect_inv AG.directOps (.task is) canon ⟨⟨GInv_init is hf canon, LQ_init is canon⟩, Acc_init is canon⟩ acts os d h).2

/-- indices of the metas whose drop guard is alive, from `k` on -/
def aliveFrom : Nat → List Meta → List Nat
  | _, [] => []
  | k, m :: ms => if m.taskAlive then k :: aliveFrom (k + 1) ms else aliveFrom (k + 1) ms

theorem aliveFrom_length : ∀ (k : Nat) (ms : List Meta), (aliveFrom k ms).length = (ms.filter (·.taskAlive)).length
  | _, [] => rfl
  | k, m :: ms => by
    simp only [aliveFrom, List.filter_cons]
    split <;> simp [aliveFrom_length (k + 1) ms]

theorem aliveFrom_mem : ∀ (k : Nat) (ms : List Meta) (s : Nat), s ∈ aliveFrom k ms →
    k ≤ s ∧ s < k + ms.length ∧ (ms[s - k]?.getD {}).taskAlive = true
  | _, [], s, h => by simp [aliveFrom] at h
  | k, m :: ms, s, h => by
    simp only [aliveFrom] at h
    have hrec := aliveFrom_mem (k + 1) ms s
    split at h
    · rename_i hm
      rcases List.mem_cons.mp h with e | e
      · subst e; simp [hm]
      · obtain ⟨a, b, c⟩ := hrec e
        refine ⟨by omega, by simp only [List.length_cons]; omega, ?_⟩
        have : s - k = (s - (k + 1)) + 1 := by omega
        rw [this]; simpa using c
    · obtain ⟨a, b, c⟩ := hrec h
      refine ⟨by omega, by simp only [List.length_cons]; omega, ?_⟩
      have : s - k = (s - (k + 1)) + 1 := by omega
      rw [this]; simpa using c

theorem aliveFrom_nodup : ∀ (k : Nat) (ms : List Meta), (aliveFrom k ms).Nodup
  | _, [] => List.nodup_nil
  | k, m :: ms => by
    simp only [aliveFrom]
    split
    · refine List.nodup_cons.mpr ⟨?_, aliveFrom_nodup (k + 1) ms⟩
      intro h
      have := (aliveFrom_mem (k + 1) ms k h).1
      omega
    · exact aliveFrom_nodup (k + 1) ms

theorem liveFutures_le_stored (c : Nat) (w : World) (h : Acc c w) :
    liveFutures w ≤ (w.cmd c).tasks.len + (w.cmd c).spawnQ.length := by
  unfold liveFutures
  rw [← aliveFrom_length 0 w.metas]
  have hsub : ∀ s ∈ aliveFrom 0 w.metas, s ∈ ((w.cmd c).tasks.values ++ (w.cmd c).spawnQ).map (·.serial) := by
    intro s hs
    obtain ⟨_, hl, ha⟩ := aliveFrom_mem 0 w.metas s hs
    simp only [Nat.zero_add, Nat.sub_zero] at hl ha
    rcases h.2.2 s hl ha with ⟨tid, t, hg, e⟩ | ⟨t, ht, e⟩
    · exact List.mem_map.mpr ⟨t, List.mem_append_left _ (Slab.mem_values_of_get _ _ _ hg), e⟩
    · exact List.mem_map.mpr ⟨t, List.mem_append_right _ ht, e⟩
  have := (aliveFrom_nodup 0 w.metas).length_le_of_subset fun x hx => hsub x hx
  simpa [Slab.len] using this

end M.Hosts
