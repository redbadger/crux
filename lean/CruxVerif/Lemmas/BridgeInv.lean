/-
Lifting an invariant of the Core to every state the serialized Bridge reaches: the Bridge is a registry around the same
Core — every path through `BridgeHost.step` is a composition of `process_event`, `process`, a resolve, a sender drop and an
abort on the Core's world.
-/
import CruxVerif.Lemmas.QRun
import CruxVerif.Lemmas.FreshCore
namespace M.Hosts
open M.Rt M.Bridge

variable {P : Core → Prop}

theorem Bridge.processEvent_inv (ops : CoreOps P) (b : Bridge) (d : Option Ev) (r) (b' : Bridge)
    (h : M.Bridge.processEvent b d = some (r, b')) (hp : P b.core) : P b'.core := by
  unfold M.Bridge.processEvent at h
  split at h
  · simp only [Option.some.injEq, Prod.mk.injEq] at h; obtain ⟨_, rfl⟩ := h; exact hp
  · split at h
    · cases h
    · rename_i effs core hpe
      simp only [Option.some.injEq, Prod.mk.injEq] at h; obtain ⟨_, rfl⟩ := h
      exact ops.pe _ _ _ _ hpe hp

theorem resume_inv (ops : CoreOps P) (k : Core) (reg : Slab Resolve) (id : Nat) (d : Option Val) (hp : P k) :
    P { k with w := (resume reg id d k.w).2.2 } := by
  unfold resume
  split
  · exact hp
  · exact hp
  · exact hp
  · split
    · exact ops.ds k _ hp
    · exact ops.res k _ _ hp
  · split
    · exact hp
    · exact ops.res k _ _ hp

theorem handleResponse_inv (ops : CoreOps P) (b : Bridge) (id : Nat) (d : Option Val) (r) (b' : Bridge)
    (h : handleResponse b id d = some (r, b')) (hp : P b.core) : P b'.core := by
  unfold handleResponse at h
  have hr := resume_inv ops b.core b.registry id d hp
  split at h
  · simp only [Option.some.injEq, Prod.mk.injEq] at h; obtain ⟨_, rfl⟩ := h; exact hp
  · rename_i e reg w heq
    simp only [Option.some.injEq, Prod.mk.injEq] at h; obtain ⟨_, rfl⟩ := h
    rw [heq] at hr; exact hr
  · rename_i reg w heq
    rw [heq] at hr
    split at h
    · cases h
    · rename_i effs core hpr
      simp only [Option.some.injEq, Prod.mk.injEq] at h; obtain ⟨_, rfl⟩ := h
      exact ops.pr _ _ _ hpr hr

theorem BridgeHost.record_b (h : BridgeHost) (reqs : List (Nat × Eff)) : (h.record reqs).2.b = h.b := by
  unfold BridgeHost.record
  simp only
  generalize canonOrder h.canon (fun (r : Nat × Eff) => viewOf r.2) reqs = l
  induction l generalizing h with
  | nil => rfl
  | cons x xs ih => simp only [List.foldl_cons]; rw [ih]

theorem BridgeHost.afterCall_inv (ops : CoreOps P) (res : String) (reqs : List (Nat × Eff)) (oldLen : Nat) (trigger : Option Ev)
    (h : BridgeHost) (o : Obs) (h' : BridgeHost) (hc : BridgeHost.afterCall res reqs oldLen trigger h = some (o, h'))
    (hp : P h.b.core) : P h'.b.core := by
  unfold BridgeHost.afterCall at hc
  simp only at hc
  cases hpe : M.Bridge.processEvent (h.record reqs).2.b (some ⟨probeTag, 0⟩) with
  | none => simp [hpe] at hc
  | some p =>
    obtain ⟨r, b⟩ := p
    simp [hpe] at hc
    obtain ⟨_, rfl⟩ := hc
    rw [BridgeHost.record_b]
    exact Bridge.processEvent_inv ops _ _ _ _ hpe (by rw [BridgeHost.record_b]; exact hp)

theorem BridgeHost.respond_inv (ops : CoreOps P) (h : BridgeHost) (k : Nat) (d : Option Val) (oldLen : Nat) (o : Obs)
    (h' : BridgeHost) (hc : h.respond k d oldLen = some (o, h')) (hp : P h.b.core) : P h'.b.core := by
  unfold BridgeHost.respond at hc
  split at hc
  · exact BridgeHost.afterCall_inv ops _ _ _ _ _ _ _ hc hp
  · simp only at hc
    split at hc
    · exact BridgeHost.afterCall_inv ops _ _ _ _ _ _ _ hc hp
    · split at hc
      · cases hc
      · rename_i reqs b hr
        exact BridgeHost.afterCall_inv ops _ _ _ _ _ _ _ hc (handleResponse_inv ops _ _ _ _ _ hr hp)
      · rename_i e b hr
        exact BridgeHost.afterCall_inv ops _ _ _ _ _ _ _ hc (handleResponse_inv ops _ _ _ _ _ hr hp)
      · rename_i b hr
        exact BridgeHost.afterCall_inv ops _ _ _ _ _ _ _ hc (handleResponse_inv ops _ _ _ _ _ hr hp)

theorem BridgeHost.event_inv (ops : CoreOps P) (h : BridgeHost) (d : Option Ev) (oldLen : Nat) (trigger : Option Ev) (o : Obs)
    (h' : BridgeHost) (hc : h.event d oldLen trigger = some (o, h')) (hp : P h.b.core) : P h'.b.core := by
  unfold BridgeHost.event at hc
  cases hpe : M.Bridge.processEvent h.b d with
  | none => simp [hpe] at hc
  | some p =>
    obtain ⟨r, b⟩ := p
    simp only [hpe, Option.bind_eq_bind, Option.bind_some] at hc
    have hb := Bridge.processEvent_inv ops _ _ _ _ hpe hp
    split at hc
    · exact BridgeHost.afterCall_inv ops _ _ _ _ _ _ _ hc hb
    · exact BridgeHost.afterCall_inv ops _ _ _ _ _ _ _ hc hb

theorem BridgeHost.step_inv (ops : CoreOps P) (h : BridgeHost) (a : Action) (o : Obs) (h' : BridgeHost)
    (hs : h.step a = some (o, h')) (hp : P h.b.core) : P h'.b.core := by
  unfold BridgeHost.step at hs
  simp only at hs
  cases a with
  | ev tag v => exact BridgeHost.event_inv ops _ _ _ _ _ _ hs hp
  | rawEv bytes dec => exact BridgeHost.event_inv ops _ _ _ _ _ _ hs hp
  | res k v => exact BridgeHost.respond_inv ops _ _ _ _ _ _ hs hp
  | rawRes k bytes dec => exact BridgeHost.respond_inv ops _ _ _ _ _ _ hs hp
  | drop _ => exact BridgeHost.afterCall_inv ops _ _ _ _ _ _ _ hs hp
  | abort n => exact BridgeHost.afterCall_inv ops _ _ _ _ _ _ _ hs (ops.ab _ n hp)
  | poll => exact BridgeHost.afterCall_inv ops _ _ _ _ _ _ _ hs hp

theorem runBridge_inv (ops : CoreOps P) (prog : Prog) (h0 : P ({ prog := prog } : Core)) (canon : Bool) (acts : List Action)
    (os : List Obs) (h : BridgeHost) (hr : runBridge prog canon acts = some (os, h)) : P h.b.core := by
  unfold runBridge at hr
  exact runSteps_inv BridgeHost.step (fun h => P h.b.core) (BridgeHost.step_inv ops) acts _ os h hr h0

theorem runBridge_fresh (prog : Prog) (canon : Bool) (acts : List Action) (os : List Obs) (h : BridgeHost)
    (hr : runBridge prog canon acts = some (os, h)) : SOk h.b.core.w :=
  runBridge_inv SOk_coreOps prog SOk_empty canon acts os h hr

end M.Hosts
