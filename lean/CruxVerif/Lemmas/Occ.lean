/-
Occupancy of the Core's executor by commands (flat apps): an executor task never hosts a dropped command, a command is hosted
at most once, and — with the scheduling invariant — at quiescence every hosted command is live and not done.
-/
import CruxVerif.Lemmas.RCore
namespace M.Rt

def cmdIds (l : List ExecTask) : List Nat := l.filterMap fun t => match t with | .cmd c => some c | .legacy _ => none

theorem mem_cmdIds {l : List ExecTask} {c : Nat} : c ∈ cmdIds l ↔ ExecTask.cmd c ∈ l := by
  unfold cmdIds
  simp only [List.mem_filterMap]
  constructor
  · rintro ⟨t, ht, h⟩
    cases t with
    | cmd c' => simp only [Option.some.injEq] at h; subst h; exact ht
    | legacy b => cases h
  · intro h; exact ⟨_, h, rfl⟩

/-- occupancy: a hosted command is alive (`nd`) and hosted once (`uq`); a command on the spawn queue is not hosted (`sf`), is
    queued once (`sc`) and is alive (`sa`) -/
structure OC (k : Core) : Prop where
  nd : ∀ e c, hostedBy k.execTasks c e → (k.w.cmd c).alive = true
  uq : ∀ e e' c, hostedBy k.execTasks c e → hostedBy k.execTasks c e' → e = e'
  sf : ∀ c, ExecTask.cmd c ∈ k.w.execSpawn → ∀ e, ¬ hostedBy k.execTasks c e
  sc : (cmdIds k.w.execSpawn).Nodup
  sa : ∀ c, ExecTask.cmd c ∈ k.w.execSpawn → (k.w.cmd c).alive = true

theorem pollNext_alive (wk : Waker) (c : Nat) (w : World) (r : NextRes) (w1 : World) (hp : pollNext wk c w = some (r, w1))
    (hf : ∀ x, HFc x w) :
    (∀ x, HFc x w1) ∧ w1.cmds.length = w.cmds.length ∧ (∀ x, (w1.cmd x).alive = (w.cmd x).alive) ∧
      w1.execSpawn = w.execSpawn := by
  have p := pollNext_q _ c w r w1 hp (hf c)
  generalize hw0 : (w.modCmd c fun x => { x with waker := some wk }) = w0 at p
  have hoth : ∀ x, c ≠ x → w0.cmd x = w.cmd x := by intro x hx; subst hw0; exact World.cmd_modCmd_other w c x _ hx
  have hlen0 : w0.cmds.length = w.cmds.length := by subst hw0; simp [World.modCmd, modifyNth_length]
  have hal0 : ∀ x, (w0.cmd x).alive = (w.cmd x).alive := by
    intro x
    by_cases e : c = x
    · subst e; subst hw0; exact cmd_modCmd_keep (·.alive) w c _ fun _ => rfl
    · rw [hoth x e]
  refine ⟨fun x => ?_, p.1.len.trans hlen0, fun x => (p.1.alive x).trans (hal0 x), es_of_X (pollNext_x _ _ _ _ _ hp)⟩
  by_cases e : c = x
  · subst e; exact p.2.1
  · have h0 : HFc x w0 := ⟨by rw [hoth x e]; exact (hf x).t, by rw [hoth x e]; exact (hf x).s⟩
    exact h0.of_qs p.1 e

theorem dropCmd_alive (c : Nat) (w : World) (hf : ∀ x, HFc x w) (hin : c < w.cmds.length) :
    (∀ x, HFc x (w.dropCmd c)) ∧ (w.dropCmd c).cmds.length = w.cmds.length ∧
      (∀ x, x ≠ c → ((w.dropCmd c).cmd x).alive = (w.cmd x).alive) ∧ (w.dropCmd c).execSpawn = w.execSpawn := by
  obtain ⟨wk, q, hoth, _, _, _, hl, _, hfk⟩ := dropCmd_flat c w (hf c) hin
  refine ⟨fun x => ?_, by rw [q.len, hl], fun x hx => by rw [q.alive x, hoth x (Ne.symm hx)], es_dropCmd w c⟩
  have hk : HFc x wk := by
    by_cases e : c = x
    · subst e; exact hfk
    · exact ⟨by rw [hoth x e]; exact (hf x).t, by rw [hoth x e]; exact (hf x).s⟩
  exact hk.of_qs_none q

theorem spawnerLoop_alive (c : Nat) (f etid : Nat) (w : World) (d : Bool) (w' : World)
    (h : spawnerLoop f etid c w = some (d, w')) (hf : ∀ x, HFc x w) (hin : c < w.cmds.length) :
    (∀ x, HFc x w') ∧ w'.cmds.length = w.cmds.length ∧ (∀ x, x ≠ c → (w'.cmd x).alive = (w.cmd x).alive) ∧
    (d = false → (w'.cmd c).alive = (w.cmd c).alive) ∧ w'.execSpawn = w.execSpawn := by
  refine spawnerLoop_post
    (J := fun W => (∀ x, HFc x W) ∧ W.cmds.length = w.cmds.length ∧ (∀ x, (W.cmd x).alive = (w.cmd x).alive) ∧
      W.execSpawn = w.execSpawn)
    (Q := fun d W => (∀ x, HFc x W) ∧ W.cmds.length = w.cmds.length ∧ (∀ x, x ≠ c → (W.cmd x).alive = (w.cmd x).alive) ∧
      (d = false → (W.cmd c).alive = (w.cmd c).alive) ∧ W.execSpawn = w.execSpawn)
    ?_ (fun _ _ k => ⟨fun x => ⟨(k.1 x).t, (k.1 x).s⟩, k.2⟩) (fun _ _ k => ⟨fun x => ⟨(k.1 x).t, (k.1 x).s⟩, k.2⟩) ?_
    (fun _ k => ⟨k.1, k.2.1, fun x _ => k.2.2.1 x, fun _ => k.2.2.1 c, k.2.2.2⟩) f w d w' h ⟨hf, rfl, fun _ => rfl, rfl⟩
  · intro w1 r w2 hp k
    obtain ⟨a1, a2, a3, a4⟩ := pollNext_alive _ c w1 r w2 hp k.1
    exact ⟨a1, a2.trans k.2.1, fun x => (a3 x).trans (k.2.2.1 x), a4.trans k.2.2.2⟩
  · intro w1 k
    obtain ⟨a1, a2, a3, a4⟩ := dropCmd_alive c w1 k.1 (by rw [k.2.1]; exact hin)
    exact ⟨a1, a2.trans k.2.1, fun x hx => (a3 x hx).trans (k.2.2.1 x), nofun, a4.trans k.2.2.2⟩

theorem cmdIds_append_legacy (l : List ExecTask) (b : Block) : cmdIds (l ++ [ExecTask.legacy b]) = cmdIds l := by
  simp [cmdIds, List.filterMap_append]

/-- the command ids on the executor's spawn queue -/
def CI (w : World) : List Nat := cmdIds w.execSpawn

theorem CI_of_es {w w' : World} (h : w'.execSpawn = w.execSpawn) : CI w' = CI w := by unfold CI; rw [h]
theorem CI_modCmd (w : World) (l : Nat) (f : CmdSt → CmdSt) : CI (w.modCmd l f) = CI w := rfl
theorem CI_newMeta (w : World) : CI w.newMeta.2 = CI w := rfl

def CIGood (pn : Waker → Nat → World → Option (NextRes × World)) (f : Nat) : Prop :=
  ∀ wk b w r w', pollBlock pn f wk .core b w = some (r, w') → hostFreeB b = true → CI w' = CI w

theorem cigood_ops (w0 : World) (wk : Waker) : PollOps wk .core fun w => CI w = CI w0 := by
  have same : ∀ {w w' : World}, w'.execSpawn = w.execSpawn → CI w = CI w0 → CI w' = CI w0 := fun he h => (CI_of_es he).trans h
  exact {
    event := fun w e => same rfl
    effect := fun w e => same rfl
    newLeaf := fun w lg => same rfl
    spawn := fun _ _ _ hs => nomatch hs
    legacy := fun w b _ _ h => (cmdIds_append_legacy w.execSpawn b).trans h
    abortTask := fun w s => same rfl
    abortCmd := fun w c => same (es_abortCmd w c)
    dropReceiver := fun w l => same rfl
    setWaker := fun w l _ => same rfl
    setQueue := fun w l q => same rfl
    join := fun w s => same rfl
    wake := fun w => same (es_wake w wk) }

theorem pollBlock_cigood (pn) : ∀ f, CIGood pn f := fun f wk b w r w' h hf =>
  pollBlock_inv pn (cigood_ops w wk) f b w r w' h hf rfl

theorem OC.world_on {k : Core} (h : OC k) (w' : World)
    (ha : ∀ x, (∃ e, hostedBy k.execTasks x e) ∨ ExecTask.cmd x ∈ k.w.execSpawn → (w'.cmd x).alive = (k.w.cmd x).alive)
    (hci : CI w' = CI k.w) : OC { k with w := w' } := by
  have hm : ∀ c, ExecTask.cmd c ∈ w'.execSpawn ↔ ExecTask.cmd c ∈ k.w.execSpawn := by
    intro c
    rw [← mem_cmdIds, ← mem_cmdIds]
    unfold CI at hci
    rw [hci]
  exact ⟨fun e c hh => by rw [ha c (Or.inl ⟨e, hh⟩)]; exact h.nd e c hh, h.uq, fun c hc e => h.sf c ((hm c).mp hc) e,
    by show (cmdIds w'.execSpawn).Nodup; unfold CI at hci; rw [hci]; exact h.sc,
    fun c hc => by rw [ha c (Or.inr ((hm c).mp hc))]; exact h.sa c ((hm c).mp hc)⟩

theorem OC.world {k : Core} (h : OC k) (w' : World) (ha : ∀ x, (w'.cmd x).alive = (k.w.cmd x).alive)
    (hci : CI w' = CI k.w) : OC { k with w := w' } :=
  h.world_on w' (fun x _ => ha x) hci

theorem OC.tasks {k : Core} (h : OC k) (es : Slab ExecTask) (hs : ∀ e x, hostedBy es x e → hostedBy k.execTasks x e) :
    OC { k with execTasks := es } :=
  ⟨fun e x hx => h.nd e x (hs e x hx), fun e e' x a b => h.uq e e' x (hs e x a) (hs e' x b),
    fun x hx e he => h.sf x hx e (hs e x he), h.sc, h.sa⟩

theorem execRunTask_oc (etid : Nat) (k : Core) (st : RunTask) (k' : Core) (h : execRunTask etid k = some (st, k'))
    (hq : QI k (some etid)) (hk : OC k) : OC k' := by
  have polled : ∀ b (r : PollRes) (w1 : World), k.execTasks.get? etid = some (.legacy b) →
      pollAt depthFuel (.root etid) .core b k.w = some (r, w1) → OC { k with w := w1 } := by
    intro b r w1 hg hp
    have hfb : hostFreeB b = true := hq.th _ (Slab.mem_values_of_get _ _ _ hg)
    have q := (pollAt_core_q _ _ _ _ _ hp hfb).1
    rw [pollAt_depthFuel] at hp
    exact hk.world w1 q.alive (pollBlock_cigood _ _ _ _ _ _ _ hp hfb)
  refine execRunTask_ind (Q := fun _ k' => OC k') (fun _ => hk) (fun c w1 hg hs => ?_) (fun c w1 hg hs => ?_)
    (fun b env w1 hg hp => ?_) (fun b b' w1 hg hp => ?_) h
  · -- `c` has finished and is dead now: its slot is freed, and it was hosted nowhere else and not queued
    obtain ⟨_, _, a3, _, a5⟩ := spawnerLoop_alive c _ etid _ _ _ hs hq.hf (hq.host etid c hg)
    refine (hk.tasks _ fun e x hx => (hostedBy_remove.mp hx).2).world_on w1 (fun x hx => a3 x ?_) (CI_of_es a5)
    rintro rfl
    rcases hx with ⟨e, he⟩ | hx
    · exact (hostedBy_remove.mp he).1 (hk.uq e etid _ (hostedBy_remove.mp he).2 hg)
    · exact hk.sf _ hx etid hg
  · obtain ⟨_, _, a3, a4, a5⟩ := spawnerLoop_alive c _ etid _ _ _ hs hq.hf (hq.host etid c hg)
    refine hk.world w1 (fun x => ?_) (CI_of_es a5)
    by_cases e : x = c
    · subst e; exact a4 rfl
    · exact a3 x e
  -- the executor's slab changes only at this slot, which holds a legacy task before and none or a legacy task afterwards
  · exact (polled b _ w1 hg hp).tasks _ fun e x hx => (hostedBy_remove.mp hx).2
  · exact (polled b _ w1 hg hp).tasks _ fun e x hx => hostedBy_set_legacy hx

/-- both invariants together -/
def QO (k : Core) : Prop := QI k none ∧ OC k

/-- **occupancy at quiescence**: with the executor's queues empty, a command an executor task hosts is live, not done
    (`QI`: a hosted command that is not scheduled has nothing left only if the spawner removed its task) and hosted once -/
theorem QO.hosted {k : Core} (h : QO k) (e1 : k.w.execSpawn = []) (e2 : k.w.execReady = []) {e c : Nat}
    (hh : k.execTasks.get? e = some (.cmd c)) :
    (k.w.cmd c).alive = true ∧ k.w.isDoneNow c = false ∧ ∀ e', k.execTasks.get? e' = some (.cmd c) → e' = e := by
  have hal := h.2.nd e c hh
  refine ⟨hal, ?_, fun e' he' => h.2.uq e' e c he' hh⟩
  rcases (h.1.allQ c (h.1.host e c hh) hal).d with s | d
  · rcases s with ⟨e', _, hr⟩ | s
    · rw [e2] at hr; cases hr
    · rw [e1] at s; cases s
  · exact d

theorem cmdIds_cons (t : ExecTask) (l : List ExecTask) :
    cmdIds (t :: l) = (match t with | .cmd c => [c] | .legacy _ => []) ++ cmdIds l := by
  cases t <;> simp [cmdIds]

theorem OC.popSpawn {k : Core} (hq : QI k none) (hk : OC k) (t : ExecTask) (rest : List ExecTask) (hsp : k.w.execSpawn = t :: rest) :
    OC { k with w := { k.w with execSpawn := rest }, execTasks := (k.execTasks.insert t).2 } := by
  have hself := Slab.get_insert_self k.execTasks t hq.wf
  have back : ∀ e x, hostedBy (k.execTasks.insert t).2 x e → hostedBy k.execTasks x e ∨ (e = (k.execTasks.insert t).1 ∧ t = .cmd x) := by
    intro e x hx
    unfold hostedBy at hx ⊢
    by_cases ee : e = (k.execTasks.insert t).1
    · subst ee; rw [hself] at hx; cases hx; exact Or.inr ⟨rfl, rfl⟩
    · rw [Slab.get_insert_other _ _ _ ee] at hx; exact Or.inl hx
  have hnd : (cmdIds (t :: rest)).Nodup := by rw [← hsp]; exact hk.sc
  rw [cmdIds_cons] at hnd
  refine ⟨?_, ?_, ?_, ?_, ?_⟩
  · intro e x hx
    show (k.w.cmd x).alive = true
    rcases back e x hx with h | ⟨_, h⟩
    · exact hk.nd e x h
    · exact hk.sa x (by rw [hsp, h]; simp)
  · intro e e' x h1 h2
    rcases back e x h1 with a | ⟨a1, a2⟩ <;> rcases back e' x h2 with b | ⟨b1, b2⟩
    · exact hk.uq e e' x a b
    · exact absurd a (hk.sf x (by rw [hsp, b2]; simp) e)
    · exact absurd b (hk.sf x (by rw [hsp, a2]; simp) e')
    · rw [a1, b1]
  · intro x hx e he
    have hx' : ExecTask.cmd x ∈ rest := hx
    rcases back e x he with a | ⟨_, a2⟩
    · exact hk.sf x (by rw [hsp]; simp [hx']) e a
    · subst a2
      simp only [List.singleton_append, List.nodup_cons] at hnd
      exact hnd.1 (mem_cmdIds.mpr hx')
  · show (cmdIds rest).Nodup
    exact (List.nodup_append.mp hnd).2.1
  · intro x hx
    have hx' : ExecTask.cmd x ∈ rest := hx
    show (k.w.cmd x).alive = true
    exact hk.sa x (by rw [hsp]; simp [hx'])

theorem runAll_oc : ∀ (f : Nat) (k k' : Core), runAll f k = some k' → QO k → QO k' :=
  runAll_inv
    (execDrainSpawn_inv fun _ t rest _ _ hk hsp hr =>
      have q0 := hk.1.popSpawn t rest hsp
      ⟨execRunTask_q _ _ _ _ hr q0, execRunTask_oc _ _ _ _ hr q0 (hk.2.popSpawn hk.1 t rest hsp)⟩)
    (execDrainReady_inv fun _ etid rest _ _ hk hrd hr =>
      have q0 := hk.1.popReady etid rest hrd
      ⟨execRunTask_q _ _ _ _ hr q0, execRunTask_oc _ _ _ _ hr q0 (hk.2.world _ (fun _ => rfl) rfl)⟩)

theorem cmdIds_legacy_map (env : Env) (ls : List (List Instr)) :
    cmdIds (ls.map fun is => ExecTask.legacy (.mk env .idle is)) = [] := by
  induction ls with
  | nil => rfl
  | cons a as ih => simp only [List.map_cons, cmdIds_cons, List.nil_append]; exact ih

theorem cmdIds_append (a b : List ExecTask) : cmdIds (a ++ b) = cmdIds a ++ cmdIds b := by
  simp [cmdIds, List.filterMap_append]

theorem OC.extend {k : Core} (hq : QI k none) (hk : OC k) (W : World) (newc : CmdSt) (env : Env) (ls : List (List Instr)) (lg : List Ev)
    (hcmds : W.cmds = k.w.cmds ++ [newc])
    (hs : W.execSpawn = k.w.execSpawn ++ (ls.map fun is => ExecTask.legacy (.mk env .idle is)) ++ [.cmd k.w.cmds.length])
    (hna : newc.alive = true) : OC { k with w := W, log := lg } := by
  have hold : ∀ c, c < k.w.cmds.length → W.cmd c = k.w.cmd c := by
    intro c hc; simp only [World.cmd, hcmds]; exact cmd_append_lt _ _ _ hc
  have hnew : W.cmd k.w.cmds.length = newc := by simp [World.cmd, hcmds]
  have hmem : ∀ x, ExecTask.cmd x ∈ W.execSpawn → ExecTask.cmd x ∈ k.w.execSpawn ∨ x = k.w.cmds.length := by
    intro x hx
    rw [hs] at hx
    simp only [List.mem_append, List.mem_map, List.mem_singleton] at hx
    rcases hx with (hx | ⟨_, _, e⟩) | e
    · exact Or.inl hx
    · cases e
    · cases e; exact Or.inr rfl
  refine ⟨?_, hk.uq, ?_, ?_, ?_⟩
  · intro e x hx
    show (W.cmd x).alive = true
    rw [hold x (hq.host e x hx)]; exact hk.nd e x hx
  · intro x hx e he
    rcases hmem x hx with h | h
    · exact hk.sf x h e he
    · subst h; have := hq.host e _ he; omega
  · show (cmdIds W.execSpawn).Nodup
    rw [hs, cmdIds_append, cmdIds_append, cmdIds_legacy_map, List.append_nil]
    simp only [cmdIds, List.filterMap_cons, List.filterMap_nil]
    rw [List.nodup_append]
    refine ⟨hk.sc, by simp, ?_⟩
    intro a ha b hb
    simp only [List.mem_singleton] at hb
    subst hb
    have := hq.spawnIn a (mem_cmdIds.mp ha)
    omega
  · intro x hx
    show (W.cmd x).alive = true
    rcases hmem x hx with h | h
    · rw [hold x (hq.spawnIn x h)]; exact hk.sa x h
    · subst h; rw [hnew]; exact hna

theorem updateWith_oc (ev : Ev) (cmd : Cmd) (ls : List (List Instr)) (k : Core) (hk : QO k) (hc : flatCmd cmd = true) :
    OC (updateWith ev cmd ls k) := by
  have nf := instantiate_flat { vars := [(0, ev.v)] } cmd (updWorld ev ls k.w) hc
  obtain ⟨is, _, hcm⟩ := nf.cmds
  refine hk.2.extend hk.1 _ _ { vars := [(0, ev.v)] } ls _ hcm ?_ rfl
  show _ ++ _ = _
  rw [nf.spawn, nf.cid]; rfl

theorem update_oc (ev : Ev) (k : Core) (hk : QO k) : QO (update ev k) := by
  refine ⟨update_q ev k hk.1, ?_⟩
  rcases update_cases ev k with ⟨_, cmd, ls, hm, e⟩ | e <;> rw [e]
  · exact updateWith_oc ev cmd ls k hk (hk.1.flat _ hm).1
  · exact updateWith_oc ev .done [] k hk rfl

theorem OC.of_fields {k k' : Core} (h : OC k) (hc : k'.w.cmds = k.w.cmds) (hs : k'.w.execSpawn = k.w.execSpawn)
    (ht : k'.execTasks = k.execTasks) : OC k' := by
  have hcmd : ∀ c, k'.w.cmd c = k.w.cmd c := fun c => by simp [World.cmd, hc]
  exact ⟨fun e c hh => by rw [hcmd]; rw [ht] at hh; exact h.nd e c hh, fun e e' c a b => by rw [ht] at a b; exact h.uq e e' c a b,
    fun c hh e he => by rw [hs] at hh; rw [ht] at he; exact h.sf c hh e he, by rw [hs]; exact h.sc,
    fun c hh => by rw [hcmd]; rw [hs] at hh; exact h.sa c hh⟩

theorem QO.of_fields {k k' : Core} (h : QO k) (hc : k'.w.cmds = k.w.cmds) (hm : k'.w.metas = k.w.metas)
    (hr : k'.w.execReady = k.w.execReady) (hs : k'.w.execSpawn = k.w.execSpawn) (ht : k'.execTasks = k.execTasks)
    (hp : k'.prog = k.prog) : QO k' :=
  ⟨h.1.of_fields hc hm hr hs ht hp, h.2.of_fields hc hs ht⟩

theorem process_oc : ∀ (k : Core) (es : List Eff) (k' : Core), process k = some (es, k') → QO k → QO k' :=
  process_inv runAll_oc
    (processLoop_inv (fun _ ev _ hk _ => update_oc ev _ (hk.of_fields rfl rfl rfl rfl rfl rfl)) runAll_oc)
    (fun _ hk => hk.of_fields rfl rfl rfl rfl rfl rfl)

end M.Rt

namespace M.Hosts
open M.Rt

theorem QO.shell {k : Core} (hk : QO k) {w' : World} (hq : QI { k with w := w' } none) (q : QS none k.w w') (hx : X w' = X k.w) :
    QO { k with w := w' } :=
  ⟨hq, hk.2.world _ q.alive (CI_of_es (es_of_X hx))⟩

theorem QO_ops : CoreOps QO where
  pe := fun ev k es k' h hk => process_oc _ es k' h (update_oc ev k hk)
  pr := process_oc
  res := fun k r v hk => QO.shell hk (QI_ops.res k r v hk.1) (resolveReq_qs none r v k.w) (X_resolveReq r v k.w)
  ds := fun k l hk => QO.shell hk (QI_ops.ds k l hk.1) (dropSender_qs none k.w l) (X_dropSender k.w l)
  ab := fun k n hk => QO.shell hk (QI_ops.ab k n hk.1) ((QS.shell none k.w).ab k.w n (QS.refl _ _)) (X_doAbort n k.w)

theorem QO_init (prog : Prog) (hp : progFlat prog) : QO ({ prog := prog } : Core) := by
  refine ⟨QI_init prog hp, ⟨?_, ?_, ?_, List.nodup_nil, ?_⟩⟩
  · intro e c hh; simp [hostedBy, Slab.get?] at hh
  · intro e e' c hh; simp [hostedBy, Slab.get?] at hh
  · intro c hh; cases hh
  · intro c hh; cases hh

end M.Hosts
