/-
Who holds the waker with serial `s`. `NoRegMC s w`: no join-handle queue and no AtomicWaker of a command holds a clone of
it; one poll of a simpleS block keeps that (`MCGood`) — the poll's waker goes to channels only. `NoReg s w`: no channel
holds one either, `World.holders s = 0`. One poll of a SIMPLE block (no select, no handoff: nothing registers a waker and
then abandons the registration) with the waker of serial `s`, started where nothing holds `s`, ends where nothing holds `s`
whenever the block it leaves is suspended only at closed requests (`NRGood`, a case analysis of `pollBlock` of its own:
registering the waker at a channel breaks `NoReg s`, and only the block that is left tells that this has not happened). So
`run_task` evicts such a task unless it was woken during the poll — a stored task is never left suspended at closed
requests only.
-/
import CruxVerif.Lemmas.NoAbort
import CruxVerif.Lemmas.FreshUse
namespace M.Rt

structure NoRegMC (s : Nat) (w : World) : Prop where
  metas : ∀ m ∈ w.metas, ∀ k ∈ m.joinWakers, isSerial s (some k) = false
  cmds : ∀ c ∈ w.cmds, isSerial s c.waker = false

theorem NoRegMC.of_same {s : Nat} {w w' : World} (h : NoRegMC s w) (hm : w'.metas = w.metas) (hc : w'.cmds = w.cmds) :
    NoRegMC s w' := ⟨by rw [hm]; exact h.metas, by rw [hc]; exact h.cmds⟩

section
variable {s : Nat} {w : World}
theorem NoRegMC.modCmd (h : NoRegMC s w) (c : Nat) (f : CmdSt → CmdSt)
    (hf : ∀ x, isSerial s x.waker = false → isSerial s (f x).waker = false) : NoRegMC s (w.modCmd c f) :=
  ⟨h.metas, mem_modifyNth (fun x : CmdSt => isSerial s x.waker = false) f hf w.cmds c h.cmds⟩
theorem mc_sinkEvent (sk : Sink) (e : Ev) (h : NoRegMC s w) : NoRegMC s (w.sinkEvent sk e) := by
  cases sk with
  | cmd c => exact h.modCmd c _ (fun _ hx => hx)
  | core => exact h.of_same rfl rfl
theorem mc_sinkEffect (sk : Sink) (e : Eff) (h : NoRegMC s w) : NoRegMC s (w.sinkEffect sk e) := by
  cases sk with
  | cmd c => exact h.modCmd c _ (fun _ hx => hx)
  | core => exact h.of_same rfl rfl
theorem mc_newMeta (h : NoRegMC s w) : NoRegMC s w.newMeta.2 := by
  refine ⟨?_, h.cmds⟩
  intro m hm
  simp only [World.newMeta, List.mem_append, List.mem_singleton] at hm
  rcases hm with hm | rfl
  · exact h.metas m hm
  · intro k hk; cases hk
theorem mc_addSpawn (c : Nat) (t : Task) (h : NoRegMC s w) : NoRegMC s (w.modCmd c (addSpawn t)) := h.modCmd c _ (fun _ hx => hx)
theorem mc_newLeaf (k : Option Waker) (lg : Bool) (h : NoRegMC s w) : NoRegMC s (w.newLeaf k lg).2 := h.of_same rfl rfl
theorem mc_modLeaf (l : Nat) (f : Leaf → Leaf) (h : NoRegMC s w) : NoRegMC s (w.modLeaf l f) := h.of_same rfl rfl
theorem mc_dropReceiver (l : Nat) (h : NoRegMC s w) : NoRegMC s (w.dropReceiver l) := h.of_same rfl rfl
theorem mc_execSpawn (xs : List ExecTask) (h : NoRegMC s w) : NoRegMC s ({ w with execSpawn := xs } : World) := h.of_same rfl rfl
end

theorem mc_wake (s : Nat) : ∀ (f : Nat) (k : Waker) (w : World), NoRegMC s w → NoRegMC s (wake f k w) := by
  intro f
  induction f with
  | zero =>
    intro k w h
    cases k <;> exact h.of_same rfl rfl
  | succ f ih =>
    intro k w h
    cases k with
    | root e => exact h.of_same rfl rfl
    | task c t s' =>
      simp only [wake]
      have h1 : NoRegMC s (if (w.cmd c).alive = true then w.modCmd c fun y => { y with ready := y.ready ++ [t] } else w) := by
        split
        · exact h.modCmd c _ (fun _ hx => hx)
        · exact h
      generalize (if (w.cmd c).alive = true then w.modCmd c fun y => { y with ready := y.ready ++ [t] } else w) = w1 at h1
      have h2 : NoRegMC s ({ w1 with woken := s' :: w1.woken } : World) := h1.of_same rfl rfl
      split
      · exact h2
      · exact ih _ _ (h2.modCmd c _ (fun _ _ => rfl))

theorem mc_World_wake {s : Nat} {w : World} (k : Waker) (h : NoRegMC s w) : NoRegMC s (w.wake k) := mc_wake s _ k w h

/-- the steps of a poll of a simpleS block keep `NoRegMC s`: the one that hands the waker to a join handle is not among
    them -/
theorem mc_classOps (s : Nat) (wk : Waker) (sink : Sink) : ClassOps SimpleSHF wk sink (fun _ => True) (NoRegMC s) where
  event _ e := mc_sinkEvent sink e
  effect _ e := mc_sinkEffect sink e
  newLeaf _ lg h := ⟨mc_newLeaf _ lg h, trivial⟩
  spawn _ c _ _ _ _ h := mc_addSpawn c _ (mc_newMeta h)
  legacy _ _ _ _ _ := mc_execSpawn _
  handoff _ c _ _ _ _ _ _ _ _ _ h := mc_addSpawn c _ (mc_newMeta h)
  legacyHandoff _ _ _ _ _ _ _ _ _ _ := mc_execSpawn _
  abortTask _ _ _ _ _ hb := absurd hb SimpleSHF.not_abortTask
  abortCmd _ _ _ _ _ hb := absurd hb SimpleSHF.not_abortCmd
  dropReceiver _ l _ := mc_dropReceiver l
  setWaker _ l _ _ := mc_modLeaf l _
  setQueue _ l _ _ := mc_modLeaf l _
  join _ _ _ _ hb := absurd hb SimpleSHF.not_awaiting
  wake _ := mc_World_wake wk

def MCGood (pn : Waker → Nat → World → Option (NextRes × World)) (s : Nat) (f : Nat) : Prop :=
  ∀ wk sink b w r w', pollBlock pn f wk sink b w = some (r, w') → hostFreeB b = true → simpleSB b = true →
    NoRegMC s w → NoRegMC s w'

theorem pollBlock_mcgood (pn) (s : Nat) (f : Nat) : MCGood pn s f := fun wk sink b w r w' h hf hs hw =>
  (pollBlock_inv_class pn simpleSHF_pollClass (fun _ h => h.2) (mc_classOps s wk sink) f b w r w' h ⟨hs, hf⟩ (fun _ _ => trivial) hw).1

theorem NoRegMC.holders {s : Nat} {w : World} (h : NoRegMC s w) :
    w.holders s = (w.leaves.filter fun l => isSerial s l.waker).length := by
  unfold World.holders
  rw [filter_length_zero _ _ h.cmds, sum_map_zero _ _ (fun m hm => filter_length_zero _ _ (h.metas m hm))]
  rfl

structure NoReg (s : Nat) (w : World) : Prop where
  leaves : ∀ lf ∈ w.leaves, isSerial s lf.waker = false
  metas : ∀ m ∈ w.metas, ∀ k ∈ m.joinWakers, isSerial s (some k) = false
  cmds : ∀ c ∈ w.cmds, isSerial s c.waker = false

section
variable {s : Nat} {w : World}

theorem NoReg.mc (h : NoReg s w) : NoRegMC s w := ⟨h.metas, h.cmds⟩

theorem NoReg.holders {s : Nat} {w : World} (h : NoReg s w) : w.holders s = 0 := by
  rw [h.mc.holders, filter_length_zero _ _ h.leaves]

/-- a step that leaves the channels alone -/
theorem NoReg.of_mc {w' : World} (h : NoReg s w) (hl : w'.leaves = w.leaves) (mc : NoRegMC s w') : NoReg s w' :=
  ⟨by rw [hl]; exact h.leaves, mc.metas, mc.cmds⟩

theorem NoReg.modLeaf (h : NoReg s w) (l : Nat) (f : Leaf → Leaf)
    (hf : ∀ x, isSerial s x.waker = false → isSerial s (f x).waker = false) : NoReg s (w.modLeaf l f) :=
  ⟨mem_modifyNth (fun x : Leaf => isSerial s x.waker = false) f hf w.leaves l h.leaves, h.metas, h.cmds⟩

theorem nr_sinkEvent (sk : Sink) (e : Ev) (h : NoReg s w) : NoReg s (w.sinkEvent sk e) :=
  h.of_mc (by cases sk <;> rfl) (mc_sinkEvent sk e h.mc)
theorem nr_sinkEffect (sk : Sink) (e : Eff) (h : NoReg s w) : NoReg s (w.sinkEffect sk e) :=
  h.of_mc (by cases sk <;> rfl) (mc_sinkEffect sk e h.mc)
theorem nr_newMeta (h : NoReg s w) : NoReg s w.newMeta.2 := h.of_mc rfl (mc_newMeta h.mc)
theorem nr_addSpawn (c : Nat) (t : Task) (h : NoReg s w) : NoReg s (w.modCmd c (addSpawn t)) := h.of_mc rfl (mc_addSpawn c t h.mc)
theorem nr_execSpawn (xs : List ExecTask) (h : NoReg s w) : NoReg s ({ w with execSpawn := xs } : World) :=
  h.of_mc rfl (mc_execSpawn xs h.mc)
theorem nr_World_wake (k : Waker) (h : NoReg s w) : NoReg s (w.wake k) := h.of_mc (World.wake_leaves w k) (mc_World_wake k h.mc)
theorem nr_setQueue (l : Nat) (q : List Val) (h : NoReg s w) : NoReg s (w.modLeaf l (setQueue q)) :=
  h.modLeaf l _ (fun _ hx => hx)
theorem nr_dropReceiver (l : Nat) (h : NoReg s w) : NoReg s (w.dropReceiver l) := h.modLeaf l _ (fun _ hx => hx)
theorem nr_dropBlock (b : Block) (hb : hostFreeB b = true) (h : NoReg s w) : NoReg s (w.dropBlock b) :=
  dropBlock_hf_ind (NoReg s) (fun _ l hw => nr_dropReceiver l hw) _ b w hb h
end

/-- what freshness gives the poll `run_task` is about to start: nothing holds its serial -/
theorem NoReg_of_sok {w : World} (h : SOk w) : NoReg w.nextSerial ({ w with nextSerial := w.nextSerial + 1 } : World) :=
  ⟨fun lf hlf => isSerial_of_below _ _ (h.leaves lf hlf),
   fun m hm k hk => isSerial_of_below _ (some k) (h.metas m hm k hk),
   fun c hc => isSerial_of_below _ _ (h.cmds c hc)⟩

/-! the result of a poll: ready, or suspended only at closed requests -/
def deadRes : PollRes → Prop
  | .pending b => deadOnlyB b = true
  | .ready _ => True
theorem deadRes_pending (b : Block) : deadRes (.pending b) = (deadOnlyB b = true) := rfl
theorem deadRes_ready (e : Env) : deadRes (.ready e) = True := rfl
theorem doB_eq (env : Env) (cur : Pend) (rest : List Instr) : deadOnlyB (.mk env cur rest) = deadOnlyP cur := by simp [deadOnlyB]
theorem doP_idle : deadOnlyP .idle = false := by simp [deadOnlyP]
theorem doP_reqDead : deadOnlyP .reqDead = true := by simp [deadOnlyP]
theorem doP_req (x l : Nat) : deadOnlyP (.req x l) = false := by simp [deadOnlyP]
theorem doP_selfwake (k : Nat) : deadOnlyP (.selfwake k) = false := by simp [deadOnlyP]
theorem doP_await (k : Nat) : deadOnlyP (.await k) = false := by simp [deadOnlyP]
theorem doP_streamWait (x l c lim : Nat) (body : List Instr) : deadOnlyP (.streamWait x l c lim body) = false := by simp [deadOnlyP]
theorem doP_streamBody (x l c lim : Nat) (body : List Instr) (inner : Block) :
    deadOnlyP (.streamBody x l c lim body inner) = deadOnlyB inner := by simp [deadOnlyP]
theorem doP_join (a b : Block) (ad bd : Bool) : deadOnlyP (.join a b ad bd) = ((ad || deadOnlyB a) && (bd || deadOnlyB b)) := by
  simp [deadOnlyP]

def NRGood (pn : Waker → Nat → World → Option (NextRes × World)) (s : Nat) (f : Nat) : Prop :=
  ∀ c t sink b w r w', pollBlock pn f (.task c t s) sink b w = some (r, w') → hostFreeB b = true → simpleB b = true →
    NoReg s w → deadRes r → NoReg s w'

/-- the claim of `NRGood` about the outcome of a poll, made of the `Option` for the reason given at `pollBlock_kept` -/
def NRKept (s : Nat) : Option (PollRes × World) → Prop
  | some (r, w') => deadRes r → NoReg s w'
  | none => True

theorem pollBlock_nrkept (pn) (s c t : Nat) (sink : Sink) :
    ∀ f b w, hostFreeB b = true → simpleB b = true → NoReg s w → NRKept s (pollBlock pn f (.task c t s) sink b w)
  | 0, _, _, _, _, _ => by simp [pollBlock, NRKept]
  | f + 1, .mk env cur rest, w, hf, hs, hw => by
    have ih := pollBlock_nrkept pn s c t sink f
    unfold pollBlock
    simp only [addJoinWaker_eq, addSpawn_eq, setWaker_eq, setQueue_eq]
    grind (gen := 20) (splits := 40) [NRKept, nr_sinkEvent, nr_sinkEffect, nr_newMeta, nr_addSpawn, nr_setQueue, nr_dropReceiver,
      nr_execSpawn, nr_World_wake,
      deadRes_pending, deadRes_ready, doB_eq, doP_idle, doP_reqDead, doP_req, doP_selfwake, doP_await, doP_streamWait,
      doP_streamBody, doP_join,
      spB_eq, spP_idle, spP_reqDead, spP_req, spP_selfwake, spP_await, spP_host, spP_select, spP_streamWait, spP_streamBody, spP_join,
      spIs_cons, spI_stream, spI_spawn, spI_join, spI_await, spI_abortTask, spI_select, spI_abortCmd, spI_handoff, spI_host,
      hfB_eq, hfP_idle, hfP_reqDead, hfP_req, hfP_await, hfP_selfwake, hfP_streamWait, hfP_streamBody, hfP_join, hfP_select,
      hfP_host, hfIs_cons, hfI_host, hfI_stream, hfI_spawn, hfI_handoff, hfI_join, hfI_select]

theorem pollBlock_nrgood (pn) (s : Nat) (f : Nat) : NRGood pn s f := fun c t sink b w r w' h hf hs hw =>
  show NRKept s (some (r, w')) from h ▸ pollBlock_nrkept pn s c t sink f b w hf hs hw

end M.Rt
