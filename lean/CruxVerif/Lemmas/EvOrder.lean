/-
Events are applied in the order in which they were enqueued, each exactly once — over whole calls.
`HQ k := k.log ++ k.w.coreEvents` (what has been applied, then what is waiting) only ever grows at its END:
`update` moves the head of the channel to the end of the log (HQ unchanged), emission appends to the channel.
-/
import CruxVerif.Lemmas.GCore
import CruxVerif.Lemmas.RtCore
namespace M.Rt

/-- the channel only grows at its end -/
def CEA (w w' : World) : Prop := ∃ s, w'.coreEvents = w.coreEvents ++ s

theorem CEA.refl (w : World) : CEA w w := ⟨[], by simp⟩
theorem CEA.trans {w1 w2 w3 : World} (a : CEA w1 w2) (b : CEA w2 w3) : CEA w1 w3 := by
  obtain ⟨s1, h1⟩ := a
  obtain ⟨s2, h2⟩ := b
  exact ⟨s1 ++ s2, by rw [h2, h1, List.append_assoc]⟩
theorem CEA.of_eq {w w' : World} (h : w'.coreEvents = w.coreEvents) : CEA w w' := ⟨[], by simp [h]⟩
theorem ce_of_X {w w' : World} (h : X w' = X w) : w'.coreEvents = w.coreEvents := congrArg (·.2.2) h

/-! `ya_op`: the operation `op` only appends to the channel (`CEA` from a fixed start) -/

section
variable {w0 w : World}
theorem ya_sinkEvent (e : Ev) (h : CEA w0 w) : CEA w0 (w.sinkEvent .core e) := h.trans ⟨[e], rfl⟩
theorem ya_sinkEffect (e : Eff) (h : CEA w0 w) : CEA w0 (w.sinkEffect .core e) := h.trans (CEA.of_eq rfl)
theorem ya_modLeaf (l : Nat) (f : Leaf → Leaf) (h : CEA w0 w) : CEA w0 (w.modLeaf l f) := h.trans (CEA.of_eq rfl)
theorem ya_modMeta (l : Nat) (f : Meta → Meta) (h : CEA w0 w) : CEA w0 (w.modMeta l f) := h.trans (CEA.of_eq rfl)
theorem ya_modCmd (l : Nat) (f : CmdSt → CmdSt) (h : CEA w0 w) : CEA w0 (w.modCmd l f) := h.trans (CEA.of_eq rfl)
theorem ya_newLeaf (k : Option Waker) (lg : Bool) (h : CEA w0 w) : CEA w0 (w.newLeaf k lg).2 := h.trans (CEA.of_eq rfl)
theorem ya_newMeta (h : CEA w0 w) : CEA w0 w.newMeta.2 := h.trans (CEA.of_eq rfl)
theorem ya_dropReceiver (l : Nat) (h : CEA w0 w) : CEA w0 (w.dropReceiver l) := h.trans (CEA.of_eq rfl)
theorem ya_wake (k : Waker) (h : CEA w0 w) : CEA w0 (w.wake k) := h.trans (CEA.of_eq (ce_of_X (X_World_wake w k)))
theorem ya_abortCmd (c : Nat) (h : CEA w0 w) : CEA w0 (w.abortCmd c) := h.trans (CEA.of_eq (ce_of_X (X_abortCmd w c)))
theorem ya_dropBlock (b : Block) (h : CEA w0 w) : CEA w0 (w.dropBlock b) := h.trans (CEA.of_eq (ce_of_X (X_World_dropBlock w b)))
theorem ya_execSpawn (xs : List ExecTask) (h : CEA w0 w) : CEA w0 ({ w with execSpawn := w.execSpawn ++ xs } : World) :=
  h.trans (CEA.of_eq rfl)
end

/-- every step of a poll with the Core as sink only appends to the channel; such a poll hosts no command -/
theorem cea_hostOps (pn) (wk : Waker) (w0 : World) : HostOps pn (fun _ => True) wk .core (fun _ => True) (CEA w0) where
  event _ e := ya_sinkEvent e
  effect _ e := ya_sinkEffect e
  newLeaf _ lg h := ⟨ya_newLeaf _ lg h, trivial⟩
  spawn _ _ _ _ hs := nomatch hs
  legacy _ _ _ _ _ := ya_execSpawn _
  handoff _ _ _ _ _ _ _ _ _ hs := nomatch hs
  legacyHandoff _ _ _ _ _ _ _ _ _ _ := ya_execSpawn _
  abortTask _ s _ _ _ _ := ya_modMeta s _
  abortCmd _ c _ _ _ _ := ya_abortCmd c
  dropReceiver _ l _ := ya_dropReceiver l
  setWaker _ l _ _ := ya_modLeaf l _
  setQueue _ l _ _ := ya_modLeaf l _
  join _ s _ _ _ := ya_modMeta s _
  wake _ := ya_wake wk
  host _ _ _ _ _ _ _ _ _ hs := nomatch hs
  dropCmd w c _ _ _ _ h := h.trans (CEA.of_eq (ce_of_X (X_World_dropCmd w c)))
  dropBlock _ b _ _ := ya_dropBlock b

theorem pollBlock_cea (pn) (wk : Waker) (w0 : World) (f : Nat) (b : Block) (w : World) (r : PollRes) (w' : World)
    (h : pollBlock pn f wk .core b w = some (r, w')) (hq : CEA w0 w) : CEA w0 w' :=
  (pollBlock_inv_blocks pn true_pollClass (cea_hostOps pn wk w0) f b w r w' h trivial (fun _ _ => trivial) hq).1

theorem spawnerLoop_cea (f etid cid : Nat) (w : World) (d : Bool) (w' : World) (h : spawnerLoop f etid cid w = some (d, w')) :
    CEA w w' :=
  spawnerLoop_inv (J := CEA w) (fun _ _ _ hp a => a.trans (CEA.of_eq (ce_of_X (pollNext_x _ _ _ _ _ hp))))
    (fun _ e a => ya_sinkEffect e a) (fun _ e a => ya_sinkEvent e a)
    (fun w1 a => a.trans (CEA.of_eq (ce_of_X (X_World_dropCmd w1 cid)))) f w d w' h (CEA.refl w)

theorem execRunTask_cea (etid : Nat) (k : Core) (st : RunTask) (k' : Core) (h : execRunTask etid k = some (st, k')) :
    CEA k.w k'.w := by
  have polled : ∀ b (r : PollRes) (w1 : World), pollAt depthFuel (.root etid) .core b k.w = some (r, w1) → CEA k.w w1 := by
    intro b r w1 hp
    rw [pollAt_depthFuel] at hp
    exact pollBlock_cea _ _ k.w _ b k.w r w1 hp (CEA.refl _)
  exact execRunTask_ind (Q := fun _ k' => CEA k.w k'.w) (fun _ => CEA.refl _) (fun _ _ _ hs => spawnerLoop_cea _ _ _ _ _ _ hs)
    (fun _ _ _ hs => spawnerLoop_cea _ _ _ _ _ _ hs) (fun b _ w1 _ hp => polled b _ w1 hp) (fun b _ w1 _ hp => polled b _ w1 hp) h

/-- what has been applied, followed by what is waiting to be applied -/
def HQ (k : Core) : List Ev := k.log ++ k.w.coreEvents

/-- the history only grows at its end -/
def HA (k k' : Core) : Prop := ∃ s, HQ k' = HQ k ++ s

theorem HA.refl (k : Core) : HA k k := ⟨[], by simp⟩
theorem HA.trans {k1 k2 k3 : Core} (a : HA k1 k2) (b : HA k2 k3) : HA k1 k3 := by
  obtain ⟨s1, h1⟩ := a
  obtain ⟨s2, h2⟩ := b
  exact ⟨s1 ++ s2, by rw [h2, h1, List.append_assoc]⟩

/-- running an executor task never touches the log, and only appends to the channel; `k0` is the state before the task was
    taken off its queue -/
theorem execRunTask_ha {k0 : Core} (etid : Nat) (k : Core) (st : RunTask) (k' : Core) (h : execRunTask etid k = some (st, k'))
    (hl : k.log = k0.log) (hc : k.w.coreEvents = k0.w.coreEvents) : HA k0 k' := by
  obtain ⟨s, hs⟩ := execRunTask_cea etid k st k' h
  exact ⟨s, by unfold HQ; rw [(execRunTask_frame etid k k' st h).1, hs, hl, hc, List.append_assoc]⟩

theorem runAll_ha (f : Nat) (k k' : Core) (h : runAll f k = some k') : HA k k' :=
  runAll_inv (P := HA k) (execDrainSpawn_inv fun _ _ _ _ _ a _ hr => a.trans (execRunTask_ha _ _ _ _ hr rfl rfl))
    (execDrainReady_inv fun _ _ _ _ _ a _ hr => a.trans (execRunTask_ha _ _ _ _ hr rfl rfl)) f k k' h (HA.refl k)

theorem update_ce (ev : Ev) (k : Core) : (update ev k).w.coreEvents = k.w.coreEvents := by
  rcases update_cases ev k with ⟨_, _, _, _, e⟩ | e <;> rw [e] <;> exact (ce_of_X (X_instantiate _ _ _)).trans rfl

theorem process_ha (k : Core) (es : List Eff) (k' : Core) (h : process k = some (es, k')) : HA k k' := by
  refine process_inv (P := HA k) (fun f k1 k2 hr a => a.trans (runAll_ha f k1 k2 hr))
    (processLoop_inv (fun k1 ev rest a he => a.trans ⟨[], ?_⟩) fun f k1 k2 hr a => a.trans (runAll_ha f k1 k2 hr))
    (fun _ a => a) k es k' h (HA.refl k)
  unfold HQ
  rw [update_log, update_ce, he]
  simp

theorem processEvent_ha (ev : Ev) (k : Core) (es : List Eff) (k' : Core) (h : processEvent ev k = some (es, k'))
    (h0 : k.w.coreEvents = []) : ∃ s, HQ k' = HQ k ++ ev :: s := by
  have a : HQ (update ev k) = HQ k ++ [ev] := by
    unfold HQ
    rw [update_log, update_ce, h0]; simp
  obtain ⟨s, hs⟩ := process_ha _ _ _ h
  exact ⟨s, by rw [hs, a, List.append_assoc]; rfl⟩

end M.Rt

namespace M.Hosts
open M.Rt

theorem process_log_ext (k : Core) (es : List Eff) (k' : Core) (h : process k = some (es, k')) :
    k'.w.coreEvents = [] ∧ ∃ s, k'.log = k.log ++ k.w.coreEvents ++ s := by
  have e := (process_post k k' es h).2.1
  obtain ⟨s, hs⟩ := process_ha k es k' h
  refine ⟨e, s, ?_⟩
  unfold HQ at hs
  rw [e, List.append_nil] at hs
  exact hs

theorem processEvent_log_ext (ev : Ev) (k : Core) (es : List Eff) (k' : Core) (h : processEvent ev k = some (es, k'))
    (h0 : k.w.coreEvents = []) : k'.w.coreEvents = [] ∧ ∃ s, k'.log = k.log ++ ev :: s := by
  have e := (process_post _ k' es h).2.1
  obtain ⟨s, hs⟩ := processEvent_ha ev k es k' h h0
  refine ⟨e, s, ?_⟩
  unfold HQ at hs
  rw [e, h0, List.append_nil, List.append_nil] at hs
  exact hs

/-- between calls the event channel is empty and the log extends `L` -/
def LogExt (L : List Ev) (k : Core) : Prop := k.w.coreEvents = [] ∧ ∃ s, k.log = L ++ s

theorem LogExt.shell {L : List Ev} {k : Core} (h : LogExt L k) {w' : World} (hx : X w' = X k.w) : LogExt L { k with w := w' } :=
  ⟨(ce_of_X hx).trans h.1, h.2⟩

theorem LogExt_ops (L : List Ev) : CoreOps (LogExt L) where
  pe := fun ev k es k' h hk => by
    obtain ⟨e, s', hs'⟩ := processEvent_log_ext ev k es k' h hk.1
    obtain ⟨s, hs⟩ := hk.2
    exact ⟨e, s ++ ev :: s', by rw [hs', hs, List.append_assoc]⟩
  pr := fun k es k' h hk => by
    obtain ⟨e, s', hs'⟩ := process_log_ext k es k' h
    obtain ⟨s, hs⟩ := hk.2
    exact ⟨e, s ++ s', by rw [hs', hk.1, List.append_nil, hs, List.append_assoc]⟩
  res := fun k r v hk => hk.shell (X_resolveReq r v k.w)
  ds := fun k l hk => hk.shell (X_dropSender k.w l)
  ab := fun k n hk => hk.shell (X_doAbort n k.w)

theorem CoreHost.step_log (h : CoreHost) (a : Action) (o : Obs) (h' : CoreHost) (hs : h.step a = some (o, h'))
    (h0 : h.k.w.coreEvents = []) : h'.k.w.coreEvents = [] ∧ ∃ s, h'.k.log = h.k.log ++ s :=
  CoreHost.step_inv (LogExt_ops h.k.log) h a o h' hs ⟨h0, [], (List.append_nil _).symm⟩

theorem runCore_channel_empty (prog : Prog) (canon : Bool) (acts : List Action) (os : List Obs) (h : CoreHost)
    (hr : runCore prog canon acts = some (os, h)) : h.k.w.coreEvents = [] :=
  (runCore_inv (LogExt_ops []) prog ⟨rfl, [], rfl⟩ canon acts os h hr).1

end M.Hosts
