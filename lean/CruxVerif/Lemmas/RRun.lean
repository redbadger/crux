/- In-range-ness through the command executor and the knot on the nesting depth, through command building and the shell's
   operations, then over whole runs of the direct host of ANY command. -/
import CruxVerif.Lemmas.RPoll
namespace M.Rt

def RunW (runTask : Nat → Nat → World → Option (TaskState × World)) : Prop :=
  ∀ c tid w st w', runTask c tid w = some (st, w') → WFw w → WStep w w'
def SettleW (settle : Nat → World → Option World) : Prop :=
  ∀ c w w', settle c w = some w' → WFw w → WStep w w'

theorem runTaskF_w (poll) (hp : PollW poll) : RunW (runTaskF poll) := by
  intro c tid w st w' h hw
  have polled : ∀ t r w1, (w.cmd c).tasks.get? tid = some t →
      poll (.task c tid w.nextSerial) (.cmd c) t.fut { w with nextSerial := w.nextSerial + 1 } = some (r, w1) →
      WStep w w1 ∧ rangeRes w1 r := fun t r w1 hg hpoll =>
    have k := hp _ _ _ _ _ _ hpoll (hw.same rfl rfl) (hw.t c t (Slab.mem_values_of_get _ _ _ hg))
    ⟨k.1, k.2.1⟩
  refine runTaskF_ind (Q := fun _ w' => WStep w w') (fun _ => WStep.refl hw) (fun _ _ _ => WStep.refl hw)
    (fun t _ w1 hg _ hpoll => (polled t _ w1 hg hpoll).1) (fun t b w1 hg _ hpoll => ?_) h
  obtain ⟨k, hb⟩ := polled t _ w1 hg hpoll
  have h2 : WFw (w1.modCmd c fun x => { x with tasks := x.tasks.set tid { t with fut := b } }) := by
    refine k.1.modCmd_gen c _ (fun x t' ht' => ?_) (fun _ _ ht' => Or.inl ht')
    rcases Slab.mem_values_set _ _ _ _ ht' with rfl | hm
    · exact Or.inr hb
    · exact Or.inl hm
  have fin : WStep w (parkTask c tid t w.nextSerial b w1) := k.eq (fun _ => h2.same rfl rfl) rfl
  exact ⟨fun _ _ => fin, fun _ => fin⟩

theorem finishTask_w (c tid : Nat) (w : World) (hw : WFw w) : WFw (finishTask c tid w) ∧ LL (finishTask c tid w) = LL w := by
  cases hg : (w.cmd c).tasks.get? tid with
  | none => rw [finishTask_none hg]; exact ⟨hw, rfl⟩
  | some t =>
    rw [finishTask_some hg]
    have h1 : WFw (w.modCmd c fun x => { x with tasks := ((w.cmd c).tasks.remove tid).2 }) :=
      hw.modCmd_gen c _ (fun x t' ht' => Or.inr (hw.t c t' (Slab.mem_values_remove _ _ _ ht'))) (fun _ _ ht' => Or.inl ht')
    have h2 := (h1.same (w' := World.modMeta _ t.serial fun m => { m with finished := true, joinWakers := [] }) rfl
      (LL_modMeta _ _ _)).tk0_eq (tk0_wakeAll (w.getMeta t.serial).joinWakers _) (LL_wakeAll _ _)
    exact ⟨yw_dropTask t h2, by rw [LL_World_dropTask, LL_wakeAll, LL_modMeta, LL_modCmd]⟩

theorem spawnNewTasks_w (c : Nat) (w : World) (hw : WFw w) : WFw (spawnNewTasks c w) ∧ LL (spawnNewTasks c w) = LL w := by
  -- the tasks being moved are those of the old spawn queue, in range in the old world
  refine spawnNewTasks_inv (J := fun W => WFw W ∧ LL W = LL w)
    ⟨hw.modCmd_sub c _ (fun _ _ ht => ht) (fun _ _ ht => by cases ht), rfl⟩ (fun W t ht hW => ⟨?_, hW.2⟩)
  refine hW.1.modCmd_gen c _ (fun x t' ht' => ?_) (fun _ _ ht' => Or.inl ht')
  rcases Slab.mem_values_insert _ _ _ ht' with rfl | hm
  · exact Or.inr (by rw [hW.2]; exact hw.s c t' ht)
  · exact Or.inl hm

theorem runUntilSettledF_w (runTask) (hr : RunW runTask) : SettleW (runUntilSettledF runTask) := by
  intro c w w' h hw
  refine runUntilSettledF_inv (J := WStep w) ?_ (settleLoop_inv ?_ (drainReady_inv ?_ ?_ ?_)) w w' h (WStep.refl hw)
  · intro w1 _ k
    refine (foldl_inv_mem (J := WStep w) _ _ (fun W t _ kW => ?_) k).eq (fun h1 => h1.modCmd_sub c _ ?_ (fun _ _ ht => ht)) rfl
    · exact kW.eq (yw_dropTask t) (LL_World_dropTask W t)
    · intro x t ht; simp [Slab.values] at ht
  · exact fun w1 k => k.eq (fun h1 => (spawnNewTasks_w c w1 h1).1) (spawnNewTasks_w c w1 k.1).2
  · exact fun w1 rest k => k.modCmd_same c _ (fun _ => rfl) (fun _ => rfl)
  · exact fun w1 tid st w2 hrt k => k.step (hr _ _ _ _ _ hrt)
  · exact fun w1 tid k => k.eq (fun h1 => (finishTask_w c tid w1 h1).1) (finishTask_w c tid w1 k.1).2

theorem pollNextF_w (settle) (hs : SettleW settle) : PnW (pollNextF settle) := by
  intro wk c w r w' h hw
  refine pollNextF_inv (J := WStep w) ?_ (fun w1 w2 h1 k => k.step (hs _ _ _ h1)) ?_ ?_ w r w' h (WStep.refl hw)
  · exact fun w1 k => k.modCmd_same c _ (fun _ => rfl) (fun _ => rfl)
  · exact fun w1 es k => k.modCmd_same c _ (fun _ => rfl) (fun _ => rfl)
  · exact fun w1 es k => k.modCmd_same c _ (fun _ => rfl) (fun _ => rfl)

theorem pollAt_w : ∀ d, PollW (pollAt d)
  | 0 => by intro wk p b w r w' h; simp [pollAt] at h
  | d + 1 =>
    pollBlock_rgood _ (pollNextF_w _ (runUntilSettledF_w _ (runTaskF_w _ (pollAt_w d))))
      (pollNextF_x _ (runUntilSettledF_x _ (runTaskF_x _ (pollAt_x d)))) loopFuel

theorem runTask_w : RunW runTask := runTaskF_w _ (pollAt_w depthFuel)
theorem runUntilSettled_w : SettleW runUntilSettled := runUntilSettledF_w _ runTask_w
theorem pollNext_w : PnW pollNext := pollNextF_w _ runUntilSettled_w


theorem cmd_push_cases {w W : World} {x : CmdSt} (hc : W.cmds = w.cmds ++ [x]) (q : Nat) : W.cmd q = w.cmd q ∨ W.cmd q = x := by
  have e : W.cmd q = ({ w with cmds := w.cmds ++ [x] } : World).cmd q := by simp only [World.cmd, hc]
  rw [e, World.cmd_push]
  split
  · exact Or.inr rfl
  · exact Or.inl rfl

/-- what building does: in-range-ness kept, no leaf added, metas only grow -/
structure BW (w w' : World) : Prop where
  wf : WFw w'
  l : (LL w').1 = (LL w).1
  m : (LL w).2 ≤ (LL w').2

theorem BW.trans {w1 w2 w3 : World} (a : BW w1 w2) (b : BW w2 w3) : BW w1 w3 := ⟨b.wf, b.l.trans a.l, Nat.le_trans a.m b.m⟩

theorem BW.of_same {w w' : World} (hw : WFw w) (hc : w'.cmds = w.cmds) (hl : LL w' = LL w) : BW w w' :=
  ⟨hw.same hc hl, by rw [hl], by rw [hl]; exact Nat.le_refl _⟩

theorem inR_idle {n : Nat × Nat} {env : Env} (he : envOk n.2 env = true) (is : List Instr) : inR n (.mk env .idle is) := by
  simp only [inR, inRangeB, inRangeP, Bool.and_true]; exact he

theorem newCmd_bw (env : Env) (is : List Instr) (w : World) (hw : WFw w) (he : envOk (LL w).2 env = true) : BW w (newCmd env is w).2 := by
  have hll : LL (newCmd env is w).2 = ((LL w).1, (LL w).2 + 1) := by simp [newCmd, LL, World.newMeta]
  have hle : LLe (LL w) (LL (newCmd env is w).2) := by rw [hll]; exact ⟨Nat.le_refl _, Nat.le_succ _⟩
  have hc : (newCmd env is w).2.cmds = w.cmds ++ [freshCmd env w.newMeta.1 is] := rfl
  refine ⟨⟨fun c t ht => ?_, fun c t ht => ?_⟩, by rw [hll], hle.2⟩
  · rcases cmd_push_cases hc c with e | e <;> rw [e] at ht
    · exact (hw.t c t ht).mono hle
    · simp only [freshCmd, Slab.insert, Slab.empty, Slab.values, List.nil_append, List.filterMap_cons, id, List.filterMap_nil,
        List.mem_singleton] at ht
      subst ht
      exact inR_idle (envOk_mono hle.2 env he) is
  · rcases cmd_push_cases hc c with e | e <;> rw [e] at ht
    · exact (hw.s c t ht).mono hle
    · cases ht

theorem spawnOn_bw (cid : Nat) (env : Env) (is : List Instr) (w : World) (hw : WFw w) (he : envOk (LL w).2 env = true) :
    BW w (spawnOn cid env is w) := by
  unfold spawnOn
  simp only
  refine ⟨?_, by rw [LL_modCmd, LL_newMeta], by rw [LL_modCmd, LL_newMeta]; exact Nat.le_succ _⟩
  refine yw_spawn cid _ (yw_newMeta hw) (inR_idle ?_ is)
  rw [LL_newMeta]; exact envOk_mono (Nat.le_succ _) env he

mutual
theorem instantiate_bw (env : Env) : (c : Cmd) → (w : World) → WFw w → envOk (LL w).2 env = true → BW w (instantiate env c w).2
  | .done, w, hw, he | .event _ _, w, hw, he | .notify _ _, w, hw, he | .req _ _ _, w, hw, he | .stream _ _ _, w, hw, he
  | .chain _ _ _ _ _, w, hw, he | .task _, w, hw, he => by simp only [instantiate]; exact newCmd_bw env _ w hw he
  | .thenC a b, w, hw, he => by
    simp only [instantiate]
    have h1 := instantiate_bw env a w hw he
    have h2 := instantiate_bw env b _ h1.wf (envOk_mono h1.m env he)
    exact (h1.trans h2).trans (newCmd_bw env _ _ h2.wf (envOk_mono (Nat.le_trans h1.m h2.m) env he))
  | .andC a b, w, hw, he => by
    simp only [instantiate]
    have h1 := instantiate_bw env b w hw he
    have h2 := instantiate_bw env a _ h1.wf (envOk_mono h1.m env he)
    generalize hW : ({ (instantiate env a (instantiate env b w).2).2 with
      aborts := (instantiate env a (instantiate env b w).2).2.aborts.take w.aborts.length ++
        (instantiate env a (instantiate env b w).2).2.aborts.drop (instantiate env b w).2.aborts.length ++
        ((instantiate env a (instantiate env b w).2).2.aborts.drop w.aborts.length).take ((instantiate env b w).2.aborts.length - w.aborts.length) } : World) = W
    have h3 : BW (instantiate env a (instantiate env b w).2).2 W := by subst hW; exact BW.of_same h2.wf rfl rfl
    refine ((h1.trans h2).trans h3).trans (spawnOn_bw _ env _ W h3.wf ?_)
    exact envOk_mono (Nat.le_trans (Nat.le_trans h1.m h2.m) h3.m) env he
  | .all cs, w, hw, he => by
    simp only [instantiate]
    have h1 := instantiateAll_bw env cs w hw he
    have h2 := (h1.trans (newCmd_bw env [] _ h1.wf (envOk_mono h1.m env he)))
    exact foldl_inv_mem (J := BW w) _ _ (fun W ci _ k => k.trans (spawnOn_bw _ env _ W k.wf (envOk_mono k.m env he))) h2
  | .mapEf _ c, w, hw, he | .mapEv _ c, w, hw, he => by
    simp only [instantiate]
    have h1 := instantiate_bw env c w hw he
    exact h1.trans (newCmd_bw env _ _ h1.wf (envOk_mono h1.m env he))
  | .abortable name c, w, hw, he => by
    simp only [instantiate]
    have h1 := instantiate_bw env c w hw he
    exact h1.trans (BW.of_same h1.wf rfl rfl)
theorem instantiateAll_bw (env : Env) : (cs : List Cmd) → (w : World) → WFw w → envOk (LL w).2 env = true → BW w (instantiateAll env cs w).2
  | [], w, hw, _ => by simp only [instantiateAll]; exact BW.of_same hw rfl rfl
  | c :: cs, w, hw, he => by
    simp only [instantiateAll]
    have h1 := instantiate_bw env c w hw he
    exact h1.trans (instantiateAll_bw env cs _ h1.wf (envOk_mono h1.m env he))
end

theorem WFw_empty : WFw ({} : World) :=
  ⟨fun c t ht => by simp [World.cmd, Slab.values] at ht, fun c t ht => by simp [World.cmd] at ht⟩

end M.Rt

namespace M.Hosts
open M.Rt

theorem WFw_shell : ShellOps WFw where
  res := fun w r v h => resolveReq_inv
    (fun _ l _ _ h => World.deliver_inv (fun W h => h.same rfl (LL_modLeaf W l _)) (fun _ wk h => yw_wake wk h) _ h)
    (fun _ => yw_dropSender) r v w h
  ds := fun _ => yw_dropSender
  ab := fun w n h => doAbort_inv (fun _ c => yw_abortCmd c) n w h

theorem WFw_direct : DirectOps fun _ => WFw where
  settle := fun cid w w' h hw => (runUntilSettled_w cid w w' h hw).1
  effs := fun cid _ hw => hw.modCmd_same cid _ (fun _ => rfl) (fun _ => rfl)
  evs := fun cid _ hw => hw.modCmd_same cid _ (fun _ => rfl) (fun _ => rfl)
  shell := fun _ => WFw_shell

/-- **Every stored block is well-formed in every reachable world.** For ANY command (any nesting of combinators, any task
    bodies) held directly by a test, after every history of resolutions, drops, aborts and polls: every leaf id and every
    join-handle id mentioned by any stored or queued task of any command exists. -/
theorem runDirect_wf (c : Cmd) (canon : Bool) (acts : List Action) (os : List Obs) (d : Direct)
    (h : runDirect c canon acts = some (os, d)) : WFw d.w :=
  (runDirect_inv WFw_direct c canon (instantiate_bw {} c {} WFw_empty rfl).wf acts os d h).2

end M.Hosts
