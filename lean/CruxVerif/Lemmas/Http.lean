/-
Helper lemmas for C14 / C15 (association-list headers, the builder fold name by name, header appending).
-/
import CruxVerif.Spec.Http
namespace Lemmas.Http
open M.Http S.Http

theorem contains_insert (h : Headers) (k n : Bytes) (vs : List Bytes) :
    (h.insert k vs).contains n = (k == n || h.contains n) := by
  simp only [Headers.insert, Headers.contains, List.any_append, List.any_filter, List.any_cons, List.any_nil,
    Bool.or_comm (k == n)]
  by_cases hk : k = n
  · simp [hk]
  · congr 1
    refine List.any_congr rfl fun e => ?_
    by_cases he : e.1 = n <;> simp [he, Ne.symm hk]

theorem values_insert (h : Headers) (k n : Bytes) (vs : List Bytes) :
    (h.insert k vs).values n = if k = n then vs else h.values n := by
  simp only [Headers.insert, Headers.values, List.filter_append, List.filter_filter, List.flatMap_append]
  by_cases hk : k = n
  · simp [hk]
  · have : ∀ e : Bytes × List Bytes, (e.1 == n && e.1 != k) = (e.1 == n) := fun e => by
      by_cases he : e.1 = n <;> simp [he, Ne.symm hk]
    simp [hk, this]

theorem values_of_not_contains (h : Headers) (n : Bytes) (hn : h.contains n = false) : h.values n = [] := by
  have : h.filter (fun e => e.1 == n) = [] :=
    List.filter_eq_nil_iff.2 fun e he => by simpa using List.any_eq_false.1 hn e he
  simp [Headers.values, this]

theorem values_append (h : Headers) (k n : Bytes) (vs : List Bytes) :
    (h.append k vs).values n = h.values n ++ (if k = n then vs else []) := by
  unfold Headers.append
  by_cases hk : k = n
  · subst hk
    cases hc : h.contains k <;> simp [values_insert, values_of_not_contains, hc]
  · split <;> simp [values_insert, hk]

theorem contains_append (h : Headers) (k n : Bytes) (vs : List Bytes) :
    (h.append k vs).contains n = (k == n || h.contains n) := by
  unfold Headers.append
  split <;> simp [contains_insert]

/-- the names of an association list (a header map, or a list of name-value pairs) are lower-case -/
def NamesLower {α : Type} (l : List (Bytes × α)) : Prop := ∀ e ∈ l, lower e.1 = e.1

theorem NamesLower.nil {α : Type} : NamesLower ([] : List (Bytes × α)) := fun _ h => nomatch h

theorem namesLower_cons {α : Type} {e : Bytes × α} {l : List (Bytes × α)} :
    NamesLower (e :: l) ↔ lower e.1 = e.1 ∧ NamesLower l := List.forall_mem_cons

theorem valuesFor_cons (p : Bytes × Bytes) (hs : List (Bytes × Bytes)) (n : Bytes) :
    valuesFor (p :: hs) n = (if lower p.1 = n then [p.2] else []) ++ valuesFor hs n := by
  unfold valuesFor
  by_cases h : lower p.1 = n <;> simp [h]

theorem valuesFor_flat (h : Headers) (hl : NamesLower h) (n : Bytes) :
    valuesFor h.flat n = h.values n := by
  unfold valuesFor Headers.flat Headers.values
  induction h with
  | nil => rfl
  | cons e t ih =>
    obtain ⟨he, ht⟩ := namesLower_cons.1 hl
    simp only [List.flatMap_cons, List.filter_append, List.map_append, ih ht, List.filter_cons]
    by_cases hen : e.1 = n
    · subst hen; simp [List.filter_map, Function.comp_def, he]
    · simp [hen, List.filter_map, Function.comp_def, he]

theorem lowerByte_idem (c : Nat) : lowerByte (lowerByte c) = lowerByte c := by
  unfold lowerByte
  split
  next h => exact if_neg (by simp at h ⊢; omega)
  · rfl

theorem lower_idem (b : Bytes) : lower (lower b) = lower b := by
  simp [lower, lowerByte_idem]

theorem lower_ctName : lower ctName = ctName := by decide

theorem namesLower_insert (h : Headers) (k : Bytes) (vs : List Bytes) (hl : NamesLower h) (hk : lower k = k) :
    NamesLower (h.insert k vs) := by
  intro e he
  rcases List.mem_append.1 he with he | he
  · exact hl e (List.mem_filter.1 he).1
  · obtain rfl := List.mem_singleton.1 he
    exact hk

theorem namesLower_append (h : Headers) (k : Bytes) (vs : List Bytes) (hl : NamesLower h) (hk : lower k = k) :
    NamesLower (h.append k vs) := by
  unfold Headers.append
  split <;> exact namesLower_insert _ _ _ hl hk

theorem namesLower_copyContentType (h : Headers) (m : Bytes) (hl : NamesLower h) :
    NamesLower (copyContentType h m) := by
  unfold copyContentType
  split
  · exact hl
  · exact namesLower_insert _ _ _ hl lower_ctName

/-- the entry stored under `n`: `none` = no entry, `some vs` = an entry with values `vs` -/
def entry (h : Headers) (n : Bytes) : Option (List Bytes) := if h.contains n then some (h.values n) else none

theorem entry_nil (n : Bytes) : entry [] n = none := rfl

theorem entry_isSome (h : Headers) (n : Bytes) : (entry h n).isSome = h.contains n := by
  unfold entry
  cases h.contains n <;> rfl

theorem entry_insert (h : Headers) (k n : Bytes) (vs : List Bytes) :
    entry (h.insert k vs) n = if k = n then some vs else entry h n := by
  unfold entry
  rw [contains_insert, values_insert]
  by_cases hk : k = n <;> simp [hk]

theorem values_eq_entry (h : Headers) (n : Bytes) : h.values n = (entry h n).getD [] := by
  unfold entry
  cases hc : h.contains n <;> simp [values_of_not_contains, hc]

theorem entry_copyContentType (h : Headers) (m n : Bytes) :
    entry (copyContentType h m) n =
      if n = ctName then (match entry h n with | none => some [m] | some x => some x) else entry h n := by
  unfold copyContentType
  by_cases hn : n = ctName
  · subst hn
    split
    next hc => simp [entry, hc]
    next hc => rw [entry_insert]; simp [entry, hc]
  · split <;> simp [entry_insert, Ne.symm hn]

/-- what one builder call does to the entry of header `n` -/
def stepName (n : Bytes) (st : Option (List Bytes)) (c : Call) : Option (List Bytes) :=
  match explicitFor n c with
  | some vs => some vs
  | none =>
    match bodyOf c with
    | some (k, _) => if n = ctName then (match st with | none => some [k.mime] | some x => some x) else st
    | none => st

/-- what the calls `cs` make of `r`, field by field; `zero` carries along that a recorded length of 0 means there is
    nothing to read, which is what lets `into_protocol_request` send `vec![]` for such a body -/
structure Folds (r r' : Req) (cs : List Call) : Prop where
  method : r'.method = r.method
  url : r'.url = (lastQuery cs).getD r.url
  body : r'.body = ((lastBody cs).map (·.2)).getD r.body
  len : lastBody cs = none → r'.len = r.len
  zero : (r.len = some 0 → r.body = []) → r'.len = some 0 → r'.body = []
  names : NamesLower r.headers → NamesLower r'.headers
  entries : ∀ n, entry r'.headers n = cs.foldl (stepName n) (entry r.headers n)

theorem Folds.nil (r : Req) : Folds r r [] :=
  ⟨rfl, rfl, rfl, fun _ => rfl, id, id, fun _ => rfl⟩

theorem Folds.set_body (r : Req) (c : Call) (k : BodyKind) (b : Bytes) (l : Option Nat) (hc : bodyOf c = some (k, b))
    (he : ∀ n, explicitFor n c = none) (hq : lastQuery [c] = none) (hl : l = some 0 → b = []) :
    Folds r (setBody r k b l) [c] where
  method := rfl
  url := by rw [hq]; rfl
  body := by simp [lastBody, hc, setBody]
  len := by simp [lastBody, hc]
  zero := fun _ => hl
  names := namesLower_copyContentType _ _
  entries n := by simp [setBody, entry_copyContentType, stepName, he, hc]

theorem Folds.one {r r' : Req} {c : Call} (h : applyCall r c = some r') : Folds r r' [c] := by
  cases c with
  | header k vs =>
    simp only [applyCall, Option.ite_none_right_eq_some, Option.some.injEq] at h
    obtain ⟨-, rfl⟩ := h
    refine ⟨rfl, rfl, rfl, fun _ => rfl, id, fun hl => namesLower_insert _ _ _ hl (lower_idem k), fun n => ?_⟩
    simp only [entry_insert, List.foldl_cons, List.foldl_nil, stepName, explicitFor, bodyOf]
    by_cases hk : lower k = n <;> simp [hk]
  | contentType d =>
    obtain rfl := Option.some.inj h
    refine ⟨rfl, rfl, rfl, fun _ => rfl, id, fun hl => namesLower_insert _ _ _ hl lower_ctName, fun n => ?_⟩
    simp only [entry_insert, List.foldl_cons, List.foldl_nil, stepName, explicitFor, bodyOf]
    by_cases hk : ctName = n <;> simp [hk]
  | body k b =>
    obtain rfl := Option.some.inj h
    exact .set_body r _ k b _ rfl (fun _ => rfl) rfl fun hl => List.eq_nil_of_length_eq_zero (Option.some.inj hl)
  | bodyForm ps =>
    obtain rfl := Option.some.inj h
    exact .set_body r _ .form _ _ rfl (fun _ => rfl) rfl fun hl => List.eq_nil_of_length_eq_zero (Option.some.inj hl)
  | bodyReader cs d =>
    obtain rfl := Option.some.inj h
    exact .set_body r _ .bytes _ _ rfl (fun _ => rfl) rfl fun hl => by subst hl; simp [readerContent]
  | query u =>
    obtain rfl := Option.some.inj h
    exact ⟨rfl, rfl, rfl, fun _ => rfl, id, id, fun _ => rfl⟩

theorem lastQuery_cons (c : Call) (cs : List Call) : lastQuery (c :: cs) = (lastQuery cs).or (lastQuery [c]) := by
  simp only [lastQuery]
  cases lastQuery cs <;> rfl

theorem lastBody_cons (c : Call) (cs : List Call) : lastBody (c :: cs) = (lastBody cs).or (bodyOf c) := by
  simp only [lastBody]
  cases lastBody cs <;> rfl

theorem Folds.cons {r r₁ r' : Req} {c : Call} {cs : List Call} (h₁ : Folds r r₁ [c]) (h₂ : Folds r₁ r' cs) :
    Folds r r' (c :: cs) where
  method := h₂.method.trans h₁.method
  url := by rw [lastQuery_cons, Option.getD_or, h₂.url, h₁.url]
  body := by rw [lastBody_cons, Option.map_or, Option.getD_or, h₂.body, h₁.body]; rfl
  len := fun h => by
    rw [lastBody_cons, Option.or_eq_none_iff] at h
    exact (h₂.len h.1).trans (h₁.len h.2)
  zero := fun h => h₂.zero (h₁.zero h)
  names := fun h => h₂.names (h₁.names h)
  entries := fun n => by rw [h₂.entries, h₁.entries]; rfl

theorem foldCalls_spec (cs : List Call) {r r' : Req} (h : foldCalls r cs = some r') : Folds r r' cs := by
  induction cs generalizing r with
  | nil => obtain rfl := Option.some.inj h; exact .nil r
  | cons c cs ih =>
    simp only [foldCalls] at h
    cases h1 : applyCall r c with
    | none => simp [h1] at h
    | some r1 => exact .cons (.one h1) (ih (by simpa only [h1] using h))

/-- the content type the *code* ends up with when nothing sets it explicitly: that of the first body -/
def firstMime (cs : List Call) : Option (List Bytes) := (firstBody cs).map (fun p => [p.1.mime])

theorem foldl_stepName (n : Bytes) (cs : List Call) : ∀ st : Option (List Bytes),
    cs.foldl (stepName n) st =
      match lastExplicit n cs with
      | some vs => some vs
      | none => if n = ctName then (match st with | some x => some x | none => firstMime cs) else st := by
  induction cs with
  | nil => intro st; cases st <;> simp [lastExplicit, firstMime, firstBody]
  | cons c cs ih =>
    intro st
    simp only [List.foldl_cons, ih, lastExplicit]
    cases hl : lastExplicit n cs with
    | some vs => rfl
    | none =>
      simp only [stepName, firstMime, firstBody]
      cases he : explicitFor n c with
      | some vs => by_cases hn : n = ctName <;> simp [hn]
      | none =>
        cases hb : bodyOf c with
        | none => simp
        | some kb =>
          by_cases hn : n = ctName
          · cases st <;> simp [hn]
          · simp [hn]

theorem lastBody_none_iff (cs : List Call) : lastBody cs = none ↔ firstBody cs = none := by
  induction cs with
  | nil => simp [lastBody, firstBody]
  | cons c cs ih =>
    rw [lastBody_cons, Option.or_eq_none_iff, ih, firstBody]
    cases bodyOf c <;> simp

theorem applyCall_isSome (r : Req) (c : Call) : (applyCall r c).isSome = inDomain [c] := by
  cases c with
  | header n vs =>
    simp only [applyCall, inDomain, List.all_cons, List.all_nil, Bool.and_true]
    cases isAscii n && vs.all isAscii <;> rfl
  | _ => rfl

/-- the builders panic exactly outside the documented domain -/
theorem foldCalls_isSome (cs : List Call) (r : Req) : (foldCalls r cs).isSome = inDomain cs := by
  induction cs generalizing r with
  | nil => rfl
  | cons c cs ih =>
    have hc := applyCall_isSome r c
    have hd : inDomain (c :: cs) = (inDomain [c] && inDomain cs) := by simp [inDomain]
    rw [foldCalls, hd, ← hc]
    cases applyCall r c with
    | none => rfl
    | some r1 => exact ih r1

theorem intoProtocol_eq (r : Req) (h0 : r.len = some 0 → r.body = [])
    (hc : r.len ≠ some 0 → r.headers.contains ctName = true) : intoProtocol r = r := by
  obtain ⟨m, u, h, b, l⟩ := r
  unfold intoProtocol
  split
  next hl =>
    have hb : b = [] := h0 (beq_iff_eq.1 hl)
    subst hb; rfl
  next hl =>
    have hct : h.contains ctName = true := hc (mt beq_iff_eq.2 hl)
    simp only [copyContentType, hct, if_true]

theorem documentedMime_eq (k : BodyKind) : documentedMime k = k.mime := by
  cases k <;>
    simp [documentedMime, BodyKind.mime, ascii, textPlainUtf8, applicationJson, formUrlencoded, octetStream]

theorem bytesLe_iff_le (a b : Bytes) : bytesLe a b = true ↔ a ≤ b := by
  induction a generalizing b with
  | nil => simp [bytesLe]
  | cons x s ih =>
    cases b with
    | nil => simp [bytesLe]
    | cons y t => simp [bytesLe, List.cons_le_cons_iff, ih]

theorem valuesFor_insertByName (p : Bytes × Bytes) (l : List (Bytes × Bytes)) (n : Bytes)
    (hp : lower p.1 = p.1) (hl : NamesLower l) :
    valuesFor (insertByName p l) n = valuesFor (p :: l) n := by
  induction l with
  | nil => rfl
  | cons q t ih =>
    obtain ⟨hq, ht⟩ := namesLower_cons.1 hl
    simp only [insertByName]
    split
    · rfl
    · rename_i hle
      rw [valuesFor_cons, ih ht, valuesFor_cons, valuesFor_cons, valuesFor_cons]
      by_cases hpn : lower p.1 = n <;> by_cases hqn : lower q.1 = n <;> simp [hpn, hqn]
      -- both are named `n`: then `p` would have been put in front of `q`
      have : p.1 = q.1 := by rw [← hp, ← hq, hpn, hqn]
      exact absurd ((bytesLe_iff_le _ _).2 (this ▸ List.le_refl _)) hle

theorem mem_insertByName (p x : Bytes × Bytes) (l : List (Bytes × Bytes)) :
    x ∈ insertByName p l ↔ x = p ∨ x ∈ l := by
  induction l with
  | nil => simp [insertByName]
  | cons q t ih =>
    simp only [insertByName]
    split
    · simp
    · simp only [List.mem_cons, ih, or_left_comm]

theorem mem_sortByName (x : Bytes × Bytes) (l : List (Bytes × Bytes)) : x ∈ sortByName l ↔ x ∈ l := by
  induction l with
  | nil => simp [sortByName]
  | cons p t ih =>
    rw [show sortByName (p :: t) = insertByName p (sortByName t) from rfl, mem_insertByName, ih, List.mem_cons]

theorem valuesFor_sortByName (l : List (Bytes × Bytes)) (n : Bytes) (hl : NamesLower l) :
    valuesFor (sortByName l) n = valuesFor l n := by
  induction l with
  | nil => rfl
  | cons p t ih =>
    obtain ⟨hp, ht⟩ := namesLower_cons.1 hl
    rw [show sortByName (p :: t) = insertByName p (sortByName t) from rfl,
      valuesFor_insertByName p _ n hp (fun x hx => ht x ((mem_sortByName x t).1 hx)),
      valuesFor_cons, ih ht, valuesFor_cons]

theorem namesLower_flat (h : Headers) (hk : NamesLower h) : NamesLower h.flat := by
  intro q hq
  simp only [Headers.flat, List.mem_flatMap, List.mem_map] at hq
  obtain ⟨e, he, v, _, rfl⟩ := hq
  exact hk e he

theorem valuesFor_emitHeaders (h : Headers) (hk : NamesLower h) (n : Bytes) :
    valuesFor (emitHeaders h) n = h.values n := by
  unfold emitHeaders
  rw [valuesFor_sortByName _ n (namesLower_flat h hk), valuesFor_flat h hk]

theorem appendAll_spec (hs : List (Bytes × Bytes)) : ∀ h h' : Headers, appendAll h hs = some h' →
    (NamesLower h → NamesLower h') ∧ ∀ n, h'.values n = h.values n ++ valuesFor hs n := by
  induction hs with
  | nil =>
    intro h h' hh
    obtain rfl := Option.some.inj hh
    simp [valuesFor]
  | cons p hs ih =>
    intro h h' hh
    obtain ⟨n0, v0⟩ := p
    simp only [appendAll] at hh
    split at hh
    · obtain ⟨hk, hv⟩ := ih _ h' hh
      refine ⟨fun hl => hk (namesLower_append _ _ _ hl (lower_idem n0)), fun n => ?_⟩
      rw [hv n, values_append, valuesFor_cons, List.append_assoc]
    · cases hh

/-- `append_header` panics exactly on a name or value that is not ASCII -/
theorem appendAll_isSome (hs : List (Bytes × Bytes)) (h : Headers) : (appendAll h hs).isSome = asciiHeaders hs := by
  induction hs generalizing h with
  | nil => rfl
  | cons p hs ih =>
    have hd : asciiHeaders (p :: hs) = ((isAscii p.1 && isAscii p.2) && asciiHeaders hs) := by simp [asciiHeaders]
    rw [appendAll, hd]
    split
    next hc => rw [hc, ih]; rfl
    next hc => rw [Bool.not_eq_true] at hc; rw [hc]; rfl

/-- every status http-types knows lies in 100..=511 (table of 59 rows, by evaluation) -/
theorem validStatus_range (s : Nat) (h : isValidStatus s = true) : 100 ≤ s ∧ s ≤ 511 := by
  have hall : ∀ x ∈ validStatus, 100 ≤ x ∧ x ≤ 511 := by decide
  unfold isValidStatus at h
  exact hall s (by simpa using h)

theorem toHttpTypes_valid (r : HttpResponse) (hv : isValidStatus r.status = true)
    (ha : asciiHeaders r.headers = true) :
    ∃ h, toHttpTypes r = .ok h ∧
      ∀ n, valuesFor h.flat n = (if n = ctName then [octetStream] else []) ++ valuesFor r.headers n := by
  obtain ⟨h, hh⟩ := Option.isSome_iff_exists.1 ((appendAll_isSome r.headers (Headers.insert [] ctName [octetStream])).trans ha)
  obtain ⟨hk, hval⟩ := appendAll_spec r.headers _ h hh
  have hkl : NamesLower h := hk (namesLower_insert [] ctName _ .nil lower_ctName)
  refine ⟨h, by simp [toHttpTypes, hv, hh], fun n => ?_⟩
  rw [valuesFor_flat h hkl, hval n, values_insert]
  simp [Headers.values, eq_comm]

theorem applyExpect_cases (e : Expect) (f : Facts) (s : Nat) (hs : List (Bytes × Bytes)) (body : Bytes) :
    (∃ b, applyExpect e f s hs body = .success s hs b) ∨ (∃ err, applyExpect e f s hs body = .error err) := by
  cases e
  · exact .inl ⟨body, rfl⟩
  · simp only [applyExpect]
    cases decodeString f body with
    | ok x => exact .inl ⟨x, rfl⟩
    | error x => exact .inr ⟨x, rfl⟩
  · simp only [applyExpect]
    cases f.jd with
    | ok x => exact .inl ⟨x, rfl⟩
    | fail x => exact .inr ⟨_, rfl⟩
    | na => exact .inr ⟨_, rfl⟩

theorem sameHeadersModInjection_of (given obs : List (Bytes × Bytes))
    (h : ∀ n, valuesFor obs n = (if n = ctName then [octetStream] else []) ++ valuesFor given n) :
    sameHeadersModInjection given obs = true := by
  unfold sameHeadersModInjection
  rw [List.all_eq_true]
  intro n _
  rw [h n, show ascii "application/octet-stream" = octetStream from documentedMime_eq .bytes]
  by_cases hn : n = ctName <;> simp [hn]

theorem sameHeaders_false_of_injected (given obs : List (Bytes × Bytes))
    (h : valuesFor obs ctName = octetStream :: valuesFor given ctName) : sameHeaders given obs = false := by
  unfold sameHeaders
  rw [List.all_eq_false]
  refine ⟨ctName, by simp [headerNames], ?_⟩
  rw [h]
  have : octetStream :: valuesFor given ctName ≠ valuesFor given ctName := fun heq => by
    simpa using congrArg List.length heq
  simp [this]

theorem okRespWith_success_class (hdrs : List (Bytes × Bytes) → List (Bytes × Bytes) → Bool) (r : HttpResponse)
    (e : Expect) (f : Facts) (o : Outcome) (h1 : 100 ≤ r.status) (h2 : r.status < 400) :
    okRespWith hdrs (.ok r) e f o =
      match o, expectedDecoded e f r.body with
      | .panic _, _ => false
      | .success s hs b, some (some x) => s == r.status && hdrs r.headers hs && b == x
      | .success s hs _, none => s == r.status && hdrs r.headers hs
      | .success _ _ _, some none => false
      | .error _, some (some _) => false
      | .error _, _ => true := by
  have hn : ¬ 400 ≤ r.status := by omega
  simp only [okRespWith, hn, h1, h2, decide_true, decide_false, Bool.false_and, Bool.and_self, Bool.false_eq_true,
    if_false, if_true]
  rfl

theorem okRespWith_error (h1 h2 : List (Bytes × Bytes) → List (Bytes × Bytes) → Bool) (res : HttpResult)
    (e : Expect) (f : Facts) (err : HttpError) :
    okRespWith h1 res e f (.error err) = okRespWith h2 res e f (.error err) := by
  unfold okRespWith
  cases res with
  | err x => rfl
  | ok r =>
    simp only
    split
    · rfl
    · split
      · rcases expectedDecoded e f r.body with _ | _ | _ <;> rfl
      · rfl

theorem okRespWith_panic (h1 : List (Bytes × Bytes) → List (Bytes × Bytes) → Bool) (r : HttpResponse)
    (e : Expect) (f : Facts) (c : PanicClass) : okRespWith h1 (.ok r) e f (.panic c) = false := by
  unfold okRespWith
  simp only
  split
  · rfl
  · split <;> rfl

theorem okRespWith_success_false (hdrs : List (Bytes × Bytes) → List (Bytes × Bytes) → Bool) (r : HttpResponse)
    (e : Expect) (f : Facts) (s : Nat) (hs : List (Bytes × Bytes)) (b : Bytes)
    (h1 : 100 ≤ r.status) (h2 : r.status < 400) (hh : hdrs r.headers hs = false) :
    okRespWith hdrs (.ok r) e f (.success s hs b) = false := by
  rw [okRespWith_success_class _ _ _ _ _ h1 h2]
  rcases expectedDecoded e f r.body with _ | _ | _ <;> simp [hh]

end Lemmas.Http
