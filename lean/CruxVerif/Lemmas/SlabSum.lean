/- Additive measures over the occupied entries of a slab, and membership in `values`, under set / insert / remove. -/
import CruxVerif.Lemmas.Slab
namespace M.Slab
variable {α : Type}

def og (g : α → Nat) : Option α → Nat
  | none => 0
  | some a => g a

def sumG (g : α → Nat) (l : List (Option α)) : Nat := ((l.filterMap id).map g).sum

theorem sumG_nil (g : α → Nat) : sumG g [] = 0 := rfl

theorem sumG_cons (g : α → Nat) (o : Option α) (l : List (Option α)) : sumG g (o :: l) = og g o + sumG g l := by
  cases o <;> simp [sumG, og]

theorem sumG_append (g : α → Nat) (l1 l2 : List (Option α)) : sumG g (l1 ++ l2) = sumG g l1 + sumG g l2 := by
  simp [sumG, List.filterMap_append]

theorem sumG_set (g : α → Nat) : ∀ (l : List (Option α)) (k : Nat) (o o' : Option α), l[k]? = some o →
    sumG g (l.set k o') + og g o = sumG g l + og g o'
  | [], _, _, _, h => by simp at h
  | x :: l, 0, o, o', h => by
    simp only [List.getElem?_cons_zero, Option.some.injEq] at h
    subst h
    simp only [List.set_cons_zero, sumG_cons]; omega
  | x :: l, k + 1, o, o', h => by
    simp only [List.getElem?_cons_succ] at h
    have := sumG_set g l k o o' h
    simp only [List.set_cons_succ, sumG_cons]; omega

theorem values_sum (g : α → Nat) (s : Slab α) : (s.values.map g).sum = sumG g s.entries := rfl

theorem sum_set (g : α → Nat) (s : Slab α) (k : Nat) (a a' : α) (h : s.get? k = some a) :
    ((s.set k a').values.map g).sum + g a = (s.values.map g).sum + g a' := by
  unfold set
  simp only [h]
  rw [values_sum, values_sum]
  exact sumG_set g s.entries k (some a) (some a') (get?_some_entry s k a h)

theorem sum_insert_le (g : α → Nat) (s : Slab α) (a : α) : ((s.insert a).2.values.map g).sum ≤ (s.values.map g).sum + g a := by
  unfold insert
  split
  · rename_i k rest _
    simp only [values_sum]
    cases he : s.entries[k]? with
    | none => rw [List.set_eq_of_length_le (List.getElem?_eq_none_iff.1 he)]; omega
    | some o =>
      have := sumG_set g s.entries k o (some a) he
      simp only [og] at this
      omega
  · simp only [values_sum, sumG_append, sumG_cons, sumG_nil, og]; omega

theorem sum_remove (g : α → Nat) (s : Slab α) (k : Nat) (a : α) (h : s.get? k = some a) :
    ((s.remove k).2.values.map g).sum + g a = (s.values.map g).sum := by
  unfold remove
  simp only [h]
  rw [values_sum, values_sum]
  have := sumG_set g s.entries k (some a) none (get?_some_entry s k a h)
  simp only [og] at this
  omega

theorem mem_filterMap_set (l : List (Option α)) (k : Nat) (o' : Option α) (x : α)
    (h : x ∈ (l.set k o').filterMap id) : o' = some x ∨ x ∈ l.filterMap id := by
  obtain ⟨o, ho, rfl⟩ : ∃ o ∈ l.set k o', o = some x := by simpa using h
  rcases List.mem_or_eq_of_mem_set ho with hm | rfl
  · exact .inr (List.mem_filterMap.2 ⟨_, hm, rfl⟩)
  · exact .inl rfl

theorem mem_values_set (s : Slab α) (k : Nat) (a' x : α) (h : x ∈ (s.set k a').values) : x = a' ∨ x ∈ s.values := by
  unfold set at h
  split at h
  · rcases mem_filterMap_set s.entries k (some a') x h with h | h
    · left; exact (Option.some.inj h).symm
    · exact Or.inr h
  · exact Or.inr h

theorem mem_values_insert (s : Slab α) (a x : α) (h : x ∈ (s.insert a).2.values) : x = a ∨ x ∈ s.values := by
  unfold insert at h
  split at h
  · rename_i k rest _
    rcases mem_filterMap_set s.entries k (some a) x h with h | h
    · left; exact (Option.some.inj h).symm
    · exact Or.inr h
  · simp only [values, List.filterMap_append, List.mem_append] at h
    rcases h with h | h
    · exact Or.inr h
    · left; simpa using h

theorem mem_values_remove (s : Slab α) (k : Nat) (x : α) (h : x ∈ (s.remove k).2.values) : x ∈ s.values := by
  unfold remove at h
  split at h
  · rcases mem_filterMap_set s.entries k none x h with h | h
    · cases h
    · exact h
  · exact h

theorem mem_values_of_get (s : Slab α) (k : Nat) (a : α) (h : s.get? k = some a) : a ∈ s.values := by
  have := get?_some_entry s k a h
  simp only [values, List.mem_filterMap, id]
  exact ⟨some a, List.mem_of_getElem? this, rfl⟩

theorem values_empty : (({} : Slab α)).values = [] := rfl

end M.Slab
