/- `QS` for the primitive operations: wakes, aborts, sender drops, resolve / drop from the shell. -/
import CruxVerif.Lemmas.QDefs
namespace M.Rt

theorem wake_root (f : Nat) (etid : Nat) (w : World) : wake f (.root etid) w = { w with execReady := w.execReady ++ [etid] } := by
  cases f <;> rfl

/-- `w1` is `w` except that command `c` has lost its waker and may have gained ready tasks. That alone is no `QS` step: a
    root waker that is taken must have queued its executor task. Followed by a step `q` that does queue it, it is one. -/
theorem QS.after_take {me : Option Nat} {w w1 w2 : World} (c : Nat) (hlen : w1.cmds.length = w.cmds.length)
    (oth : ∀ d, c ≠ d → w1.cmd d = w.cmd d)
    (keep : ∀ {β : Type} (g : CmdSt → β), (∀ x r k, g { x with ready := r, waker := k } = g x) → g (w1.cmd c) = g (w.cmd c))
    (hwk : (w1.cmd c).waker = none) (hm : w1.metas = w.metas) (hr : w1.execReady = w.execReady)
    (hs : w1.execSpawn = w.execSpawn) (q : QS me w1 w2)
    (hroot : ∀ etid, (w.cmd c).waker = some (.root etid) → etid ∈ w2.execReady) : QS me w w2 := by
  have hn : (w2.cmd c).waker = none := (q.waker c).elim (fun h => h.trans hwk) (fun h => h.1)
  refine ⟨q.len.trans hlen, ?_, ?_, ?_, ?_, ?_, ?_, ?_, ?_⟩
  · intro d; rw [q.alive d]; by_cases e : c = d
    · subst e; exact keep (·.alive) (fun _ _ _ => rfl)
    · rw [oth d e]
  · intro d; rw [q.flag d]; by_cases e : c = d
    · subst e; exact keep (·.abortFlag) (fun _ _ _ => rfl)
    · rw [oth d e]
  · intro s' h; exact q.metaA s' (by simpa [World.getMeta, hm] using h)
  · intro e h; exact q.ready e (by rw [hr]; exact h)
  · intro t h; exact q.spawn t (by rw [hs]; exact h)
  · intro d; by_cases e : c = d
    · subst e; exact Or.inr ⟨hn, hroot⟩
    · rcases q.waker d with h | h
      · exact Or.inl (h.trans (by rw [oth d e]))
      · exact Or.inr ⟨h.1, fun etid he => h.2 etid (by rw [oth d e]; exact he)⟩
  · intro d hd
    have qo := q.other d hd
    by_cases e : c = d
    · subst e
      exact ⟨qo.1.trans (keep (·.tasks) (fun _ _ _ => rfl)), qo.2.1.trans (keep (·.spawnQ) (fun _ _ _ => rfl)),
        qo.2.2.1.trans (keep (·.effects) (fun _ _ _ => rfl)), qo.2.2.2.trans (keep (·.events) (fun _ _ _ => rfl))⟩
    · rw [oth d e] at qo; exact qo
  · intro d hd; by_cases e : c = d
    · subst e; exact Or.inr hn
    · rcases q.work d hd with h | h
      · rw [oth d e] at h; exact Or.inl h
      · exact Or.inr h

theorem wake_qs (me : Option Nat) : ∀ (f : Nat) (wk : Waker) (w : World), QS me w (wake f wk w)
  | _, .root e, w => by
    rw [wake_root]; exact QS.of_fields rfl rfl (fun _ h => List.mem_append_left _ h) (fun _ h => h)
  | 0, .task _ _ _, w => QS.fields _ _ rfl rfl rfl rfl
  | f + 1, .task c tid s, w => by
    simp only [wake]
    -- `w2`, the state after the push and the `woken` flag, is `w` but for `c`'s ready queue. If `c` holds no waker the wake
    -- ends there. Otherwise the waker is taken and woken in turn: `QS.after_take` with the rest of the wake as its step `q`,
    -- and if the waker taken is a root waker that rest is `wake_root`, which queues it. The six equalities below say what
    -- `w2` shares with `w`, whichever way the `if` on `alive` went.
    generalize hw2 : ({ (if (w.cmd c).alive = true then w.modCmd c fun c => { c with ready := c.ready ++ [tid] } else w) with
      woken := s :: (if (w.cmd c).alive = true then w.modCmd c fun c => { c with ready := c.ready ++ [tid] } else w).woken } : World) = w2
    have hcmd2 : ∀ d, c ≠ d → w2.cmd d = w.cmd d := by
      intro d hd; subst hw2
      split
      · exact World.cmd_modCmd_other w c d _ hd
      · rfl
    have hk : ∀ {β : Type} (g : CmdSt → β), (∀ x r, g { x with ready := r } = g x) → g (w2.cmd c) = g (w.cmd c) := by
      intro β g hg; subst hw2
      split
      · exact cmd_modCmd_keep g w c _ (fun x => hg x _)
      · rfl
    have hlen2 : w2.cmds.length = w.cmds.length := by
      subst hw2; split
      · simp [World.modCmd, modifyNth_length]
      · rfl
    have hmeta2 : w2.metas = w.metas := by subst hw2; split <;> rfl
    have hr2 : w2.execReady = w.execReady := by subst hw2; split <;> rfl
    have hs2 : w2.execSpawn = w.execSpawn := by subst hw2; split <;> rfl
    cases hwk : (w.cmd c).waker with
    | none =>
      exact QS.after_take c hlen2 hcmd2 (fun g hg => hk g (fun x r => hg x r x.waker))
        ((hk (·.waker) (fun _ _ => rfl)).trans hwk) hmeta2 hr2 hs2 (QS.refl me w2) (fun etid he => by rw [hwk] at he; cases he)
    | some pw =>
      simp only
      refine QS.after_take c (by simp [World.modCmd, modifyNth_length, hlen2])
        (fun d hd => (World.cmd_modCmd_other w2 c d _ hd).trans (hcmd2 d hd))
        (fun g hg => (cmd_modCmd_keep g w2 c _ (fun x => hg x x.ready none)).trans (hk g (fun x r => hg x r x.waker)))
        (cmd_modCmd_const (·.waker) none w2 c _ (fun _ => rfl) rfl) hmeta2 hr2 hs2 (wake_qs me f pw _) ?_
      intro etid he
      rw [hwk] at he; cases he
      rw [wake_root]; simp

theorem World_wake_qs (me : Option Nat) (w : World) (wk : Waker) : QS me w (w.wake wk) := wake_qs me _ wk w

theorem wakeAll_qs (me : Option Nat) (wks : List Waker) (w : World) : QS me w (w.wakeAll wks) :=
  foldl_inv_mem (J := QS me w) wks w (fun b k _ h => h.trans (World_wake_qs me b k)) (QS.refl me w)

theorem QS.modLeaf {me : Option Nat} (w : World) (l : Nat) (f : Leaf → Leaf) : QS me w (w.modLeaf l f) :=
  QS.fields _ _ rfl rfl rfl rfl
theorem QS.newLeaf {me : Option Nat} (w : World) (k : Option Waker) (lg : Bool) : QS me w (w.newLeaf k lg).2 :=
  QS.fields _ _ rfl rfl rfl rfl
theorem QS.dropReceiver {me : Option Nat} (w : World) (l : Nat) : QS me w (w.dropReceiver l) :=
  QS.fields _ _ rfl rfl rfl rfl

theorem take_wake_qs (me : Option Nat) (w : World) (c : Nat) (wk : Waker) (h : (w.cmd c).waker = some wk) :
    QS me w ((w.modCmd c fun c => { c with waker := none }).wake wk) := by
  refine QS.after_take c (by simp [World.modCmd, modifyNth_length]) (fun d hd => World.cmd_modCmd_other w c d _ hd)
    (fun g hg => cmd_modCmd_keep g w c _ (fun x => hg x x.ready none))
    (cmd_modCmd_const (·.waker) none w c _ (fun _ => rfl) rfl) rfl rfl rfl (World_wake_qs me _ wk) ?_
  intro etid he
  rw [h] at he; cases he
  rw [World.wake, wake_root]; simp

theorem abortCmd_qs (me : Option Nat) (w : World) (c : Nat) : QS me w (w.abortCmd c) := by
  unfold World.abortCmd
  simp only
  have q1 : QS me w (w.modMeta (w.cmd c).abortFlag fun m => { m with aborted := true }) := QS.modMeta w _ _ (fun _ _ => rfl)
  split
  · exact q1
  · rename_i wk hwk
    exact q1.trans (take_wake_qs me _ c wk hwk)

theorem dropSender_qs (me : Option Nat) (w : World) (l : Nat) : QS me w (w.dropSender l) :=
  World.dropSender_inv (J := QS me w) (fun w1 h => h.trans (QS.modLeaf w1 l _)) (fun w1 h => h.trans (QS.modLeaf w1 l _))
    (fun w1 wk h => h.trans (World_wake_qs me w1 wk)) w (QS.refl me w)

theorem dropEff_qs (me : Option Nat) (w : World) (e : Eff) : QS me w (dropEff w e) := by
  unfold dropEff
  split
  · exact dropSender_qs me w _
  · exact dropSender_qs me w _
  · exact QS.refl me w

theorem resolveReq_qs (me : Option Nat) (r : Resolve) (v : Val) (w : World) : QS me w (resolveReq r v w).2.2 :=
  resolveReq_inv (J := QS me w)
    (fun w1 l _ _ h => World.deliver_inv (fun w2 h2 => h2.trans (QS.modLeaf w2 l _))
      (fun w2 wk h2 => h2.trans (World_wake_qs me w2 wk)) w1 h)
    (fun w1 l h => h.trans (dropSender_qs me w1 l)) r v w (QS.refl me w)

theorem QS.shell (me : Option Nat) (w0 : World) : M.Hosts.ShellOps (QS me w0) where
  res w r v h := h.trans (resolveReq_qs me r v w)
  ds w l h := h.trans (dropSender_qs me w l)
  ab w n h := M.Hosts.doAbort_inv (fun w c h => h.trans (abortCmd_qs me w c)) n w h

theorem dropReq_qs (me : Option Nat) (r : Resolve) (w : World) : QS me w (dropReq r w).2 :=
  (QS.shell me w).dropReq w r (QS.refl me w)

def meOf : Sink → Option Nat
  | .cmd c => some c
  | .core => none

theorem sinkEffect_qs (w : World) (s : Sink) (e : Eff) : QS (meOf s) w (w.sinkEffect s e) := by
  cases s with
  | cmd c => exact QS.modCmd_me w c _ (fun _ => rfl) (fun _ => rfl) (fun _ => rfl)
  | core => exact QS.fields _ _ rfl rfl rfl rfl

theorem sinkEvent_qs (w : World) (s : Sink) (e : Ev) : QS (meOf s) w (w.sinkEvent s e) := by
  cases s with
  | cmd c => exact QS.modCmd_me w c _ (fun _ => rfl) (fun _ => rfl) (fun _ => rfl)
  | core => exact QS.fields _ _ rfl rfl rfl rfl

/-- the four fields `QS` reads; the leaves are not among them -/
def NL (w : World) := (w.cmds, w.metas, w.execReady, w.execSpawn)

theorem NL_dropBlock (dc : Nat → World → World) : (b : Block) → (w : World) → hostFreeB b = true → NL (dropBlock dc b w) = NL w :=
  fun b w h => dropBlock_hf_inv (J := fun w' => NL w' = NL w) (fun _ _ h => h) b w h rfl
theorem NL_dropPend (dc : Nat → World → World) : (p : Pend) → (w : World) → hostFreeP p = true → NL (dropPend dc p w) = NL w :=
  fun p w h => dropPend_hf_inv (J := fun w' => NL w' = NL w) (fun _ _ h => h) p w h rfl

theorem QS.of_NL {me : Option Nat} {w w' : World} (h : NL w' = NL w) : QS me w w' := by
  simp only [NL, Prod.mk.injEq] at h
  exact QS.fields _ _ h.1 h.2.1 h.2.2.1 h.2.2.2

theorem World_dropBlock_qs (me : Option Nat) (w : World) (b : Block) (h : hostFreeB b = true) : QS me w (w.dropBlock b) :=
  QS.of_NL (NL_dropBlock _ b w h)

end M.Rt
