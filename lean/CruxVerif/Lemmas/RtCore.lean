/- Postconditions of the QueuingExecutor and of Core::process in M.Rt. -/
import CruxVerif.Lemmas.RtExec
namespace M.Rt

theorem execRunTask_frame (etid : Nat) (k k' : Core) (r : RunTask) (h : execRunTask etid k = some (r, k')) :
    k'.log = k.log ∧ k'.prog = k.prog ∧ (r = .missing → k' = k) :=
  execRunTask_ind (Q := fun r k' => k'.log = k.log ∧ k'.prog = k.prog ∧ (r = .missing → k' = k))
    (fun _ => ⟨rfl, rfl, fun _ => rfl⟩) (fun _ _ _ _ => ⟨rfl, rfl, nofun⟩) (fun _ _ _ _ => ⟨rfl, rfl, nofun⟩)
    (fun _ _ _ _ _ => ⟨rfl, rfl, nofun⟩) (fun _ _ _ _ _ => ⟨rfl, rfl, nofun⟩) h

theorem execDrainSpawn_post : ∀ (f : Nat) (k k' : Core) (d d' : Bool),
    execDrainSpawn f k d = some (k', d') → k'.w.execSpawn = [] ∧ (d = true → d' = true)
  | 0, _, _, _, _, h => by simp [execDrainSpawn] at h
  | f + 1, k, k', d, d', h => by
    unfold execDrainSpawn at h
    split at h
    · rename_i hs; cases h; exact ⟨hs, id⟩
    · simp only at h
      split at h
      · cases h
      · exact ⟨(execDrainSpawn_post f _ _ _ _ h).1, fun _ => (execDrainSpawn_post f _ _ _ _ h).2 rfl⟩

theorem execDrainSpawn_nowork : ∀ (f : Nat) (k k' : Core),
    execDrainSpawn f k false = some (k', false) → k' = k := by
  intro f k k' h
  cases f with
  | zero => simp [execDrainSpawn] at h
  | succ f =>
    unfold execDrainSpawn at h
    split at h
    · cases h; rfl
    · simp only at h
      split at h
      · cases h
      · -- the recursive call carries `did = true`, which is never reset
        cases (execDrainSpawn_post _ _ _ _ _ h).2 rfl

theorem execDrainReady_true : ∀ (f : Nat) (k k' : Core) (d' : Bool),
    execDrainReady f k true = some (k', d') → d' = true
  | 0, _, _, _, h => by simp [execDrainReady] at h
  | f + 1, k, k', d', h => by
    unfold execDrainReady at h
    split at h
    · cases h; rfl
    · split at h
      · cases h
      all_goals exact execDrainReady_true f _ _ _ h

theorem execDrainReady_post : ∀ (f : Nat) (k k' : Core) (d d' : Bool),
    execDrainReady f k d = some (k', d') → k'.w.execReady = [] ∧ (d' = false → k'.w.execSpawn = k.w.execSpawn)
  | 0, _, _, _, _, h => by simp [execDrainReady] at h
  | f + 1, k, k', d, d', h => by
    unfold execDrainReady at h
    split at h
    · rename_i hs; cases h; exact ⟨hs, fun _ => rfl⟩
    · split at h
      · cases h
      · rename_i hrun
        have := (execRunTask_frame _ _ _ _ hrun).2.2 rfl
        subst this
        have ih := execDrainReady_post f _ _ _ _ h
        exact ih
      · refine ⟨(execDrainReady_post f _ _ _ _ h).1, fun e => ?_⟩
        subst e
        cases execDrainReady_true _ _ _ _ h

theorem runAll_post : ∀ (f : Nat) (k k' : Core), runAll f k = some k' →
    k'.w.execSpawn = [] ∧ k'.w.execReady = [] := by
  intro f
  induction f with
  | zero => intro k k' h; simp [runAll] at h
  | succ f ih =>
    intro k k' h
    unfold runAll at h
    split at h
    · cases h
    · rename_i k1 d1 hs
      split at h
      · cases h
      · rename_i k2 d2 hr
        split at h
        · exact ih _ _ h
        · rename_i hd
          cases h
          simp only [Bool.or_eq_true, not_or, Bool.not_eq_true] at hd
          have h2 := execDrainReady_post _ _ _ _ _ hr
          exact ⟨(h2.2 hd.2).trans (execDrainSpawn_post _ _ _ _ _ hs).1, h2.1⟩

theorem update_log (ev : Ev) (k : Core) : (update ev k).log = k.log ++ [ev] := by
  unfold update; simp only

theorem processLoop_post : ∀ (f : Nat) (k k' : Core), processLoop f k = some k' →
    (k.w.execSpawn = [] ∧ k.w.execReady = []) →
    k'.w.coreEvents = [] ∧ k'.w.execSpawn = [] ∧ k'.w.execReady = [] := by
  intro f
  induction f with
  | zero => intro k k' h; simp [processLoop] at h
  | succ f ih =>
    intro k k' h hq
    unfold processLoop at h
    split at h
    · rename_i he; cases h; exact ⟨he, hq.1, hq.2⟩
    · split at h
      · cases h
      · rename_i k1 hr
        exact ih _ _ h (runAll_post _ _ _ hr)

theorem process_result (k k' : Core) (effs : List Eff) (h : process k = some (effs, k')) :
    ∃ k2 : Core, effs = k2.w.coreEffects ∧ k' = { k2 with w := { k2.w with coreEffects := [] } } ∧
      k2.w.coreEvents = [] ∧ k2.w.execSpawn = [] ∧ k2.w.execReady = [] := by
  unfold process at h
  split at h
  · cases h
  · rename_i k1 hr
    split at h
    · cases h
    · rename_i k2 hl
      cases h
      exact ⟨k2, rfl, rfl, processLoop_post _ _ _ hl (runAll_post _ _ _ hr)⟩

/-- C01 at the Core level: when `Core::process` returns, the request channel and the event channel are empty and the
    executor has neither runnable nor unspawned tasks (that the returned list is what the request channel held is
    `process_returns_channel`). -/
theorem process_post (k k' : Core) (effs : List Eff) (h : process k = some (effs, k')) :
    k'.w.coreEffects = [] ∧ k'.w.coreEvents = [] ∧ k'.w.execSpawn = [] ∧ k'.w.execReady = [] := by
  obtain ⟨k2, -, rfl, h1, h2, h3⟩ := process_result k k' effs h
  exact ⟨rfl, h1, h2, h3⟩

theorem process_returns_channel (k k' : Core) (effs : List Eff) (h : process k = some (effs, k')) :
    ∃ k2 : Core, effs = k2.w.coreEffects ∧ k' = { k2 with w := { k2.w with coreEffects := [] } } :=
  let ⟨k2, h1, h2, _⟩ := process_result k k' effs h
  ⟨k2, h1, h2⟩

theorem runAll_log : ∀ (f : Nat) (k k' : Core), runAll f k = some k' → k'.log = k.log ∧ k'.prog = k.prog := by
  intro f k k' h
  refine runAll_inv (P := fun k1 => k1.log = k.log ∧ k1.prog = k.prog) ?_ ?_ f k k' h ⟨rfl, rfl⟩
  · exact execDrainSpawn_inv fun k1 _ _ _ k2 hk _ hr =>
      ⟨(execRunTask_frame _ _ _ _ hr).1.trans hk.1, (execRunTask_frame _ _ _ _ hr).2.1.trans hk.2⟩
  · exact execDrainReady_inv fun k1 _ _ _ k2 hk _ hr =>
      ⟨(execRunTask_frame _ _ _ _ hr).1.trans hk.1, (execRunTask_frame _ _ _ _ hr).2.1.trans hk.2⟩

theorem processLoop_log : ∀ (f : Nat) (k k' : Core), processLoop f k = some k' →
    ∃ evs, k'.log = k.log ++ evs ∧ (∀ ev rest, k.w.coreEvents = ev :: rest → ∃ evs', evs = ev :: evs') := by
  intro f
  induction f with
  | zero => intro k k' h; simp [processLoop] at h
  | succ f ih =>
    intro k k' h
    unfold processLoop at h
    split at h
    · rename_i he
      cases h
      exact ⟨[], by simp, by intro ev rest hc; rw [he] at hc; cases hc⟩
    · rename_i ev rest he
      split at h
      · cases h
      · rename_i k1 hr
        obtain ⟨evs, hlog, _⟩ := ih _ _ h
        have h1 := (runAll_log _ _ _ hr).1
        rw [update_log] at h1
        refine ⟨ev :: evs, ?_, ?_⟩
        · rw [hlog, h1]; simp
        · intro ev' rest' hc
          rw [he] at hc
          cases hc
          exact ⟨evs, rfl⟩

end M.Rt
