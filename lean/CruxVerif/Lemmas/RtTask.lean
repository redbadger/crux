/- Lemmas about `Command::run_task` and `poll_next` in M.Rt (eviction, abortion, done-ness), for an arbitrary
   lower layer. -/
import CruxVerif.Lemmas.RtExec
namespace M.Rt

theorem runTaskF_aborted (poll : Waker → Sink → Block → World → Option (PollRes × World)) (cid tid : Nat) (w : World)
    (t : Task) (hg : (w.cmd cid).tasks.get? tid = some t) (ha : (w.getMeta t.serial).aborted = true) :
    runTaskF poll cid tid w = some (.completed, w) := by
  unfold runTaskF; simp [hg, ha]

theorem runTaskF_missing (poll : Waker → Sink → Block → World → Option (PollRes × World)) (cid tid : Nat) (w : World)
    (hg : (w.cmd cid).tasks.get? tid = none) : runTaskF poll cid tid w = some (.missing, w) := by
  unfold runTaskF; simp [hg]

theorem runTaskF_pending (poll : Waker → Sink → Block → World → Option (PollRes × World)) (cid tid : Nat) (w : World)
    (t : Task) (b : Block) (w1 : World) (hg : (w.cmd cid).tasks.get? tid = some t)
    (ha : (w.getMeta t.serial).aborted = false)
    (hp : poll (.task cid tid w.nextSerial) (.cmd cid) t.fut { w with nextSerial := w.nextSerial + 1 } = some (.pending b, w1)) :
    runTaskF poll cid tid w =
      some (if !w1.woken.contains w.nextSerial && (parkTask cid tid t w.nextSerial b w1).holders w.nextSerial == 0
        then .cancelled else .suspended, parkTask cid tid t w.nextSerial b w1) := by
  unfold runTaskF
  simp only [hg, ha, hp, Bool.false_eq_true, if_false]
  exact (apply_ite (fun st => some (st, parkTask cid tid t w.nextSerial b w1)) _ _ _).symm

/-- eviction condition (the end of `run_task` in command/executor.rs): a task is `Cancelled` only if its poll returned pending, its waker
    was not woken during the poll, and no clone of that waker survives anywhere in the world left behind -/
theorem runTaskF_cancelled_park (poll : Waker → Sink → Block → World → Option (PollRes × World)) (cid tid : Nat) (w w' : World)
    (h : runTaskF poll cid tid w = some (.cancelled, w')) :
    ∃ t b w1, (w.cmd cid).tasks.get? tid = some t ∧
      poll (.task cid tid w.nextSerial) (.cmd cid) t.fut { w with nextSerial := w.nextSerial + 1 } = some (.pending b, w1) ∧
      w1.woken.contains w.nextSerial = false ∧ w' = parkTask cid tid t w.nextSerial b w1 ∧ w'.holders w.nextSerial = 0 :=
  runTaskF_ind
    (Q := fun st w' => st = .cancelled → ∃ t b w1, (w.cmd cid).tasks.get? tid = some t ∧
      poll (.task cid tid w.nextSerial) (.cmd cid) t.fut { w with nextSerial := w.nextSerial + 1 } = some (.pending b, w1) ∧
      w1.woken.contains w.nextSerial = false ∧ w' = parkTask cid tid t w.nextSerial b w1 ∧ w'.holders w.nextSerial = 0)
    (fun _ => nofun) (fun _ _ _ => nofun) (fun _ _ _ _ _ _ => nofun)
    (fun t b w1 hg _ hp => ⟨fun h1 h2 _ => ⟨t, b, w1, hg, hp, h1, rfl, h2⟩, fun _ => nofun⟩) h rfl

theorem runTaskF_cancelled (poll : Waker → Sink → Block → World → Option (PollRes × World)) (cid tid : Nat) (w w' : World)
    (h : runTaskF poll cid tid w = some (.cancelled, w')) :
    ∃ t b w1, (w.cmd cid).tasks.get? tid = some t ∧
      poll (.task cid tid w.nextSerial) (.cmd cid) t.fut { w with nextSerial := w.nextSerial + 1 } = some (.pending b, w1) ∧
      w1.woken.contains w.nextSerial = false ∧ w'.holders w.nextSerial = 0 :=
  let ⟨t, b, w1, hg, hp, hw, _, h0⟩ := runTaskF_cancelled_park poll cid tid w w' h
  ⟨t, b, w1, hg, hp, hw, h0⟩

theorem runTaskF_not_evicted_if_held (poll : Waker → Sink → Block → World → Option (PollRes × World)) (cid tid : Nat)
    (w w' : World) (st : TaskState) (h : runTaskF poll cid tid w = some (st, w'))
    (hheld : w'.holders w.nextSerial ≠ 0) : st ≠ .cancelled := by
  intro e
  subst e
  obtain ⟨_, _, _, _, _, _, h0⟩ := runTaskF_cancelled poll cid tid w w' h
  exact hheld h0

theorem pollNextF_done (settle : Nat → World → Option World) (wk : Waker) (cid : Nat) (w w' : World) (r : NextRes)
    (h : pollNextF settle wk cid w = some (r, w')) :
    (r = .finished → w'.isDoneNow cid = true) ∧ (r = .pending → w'.isDoneNow cid = false) := by
  unfold pollNextF at h
  simp only at h
  split at h
  · cases h
  · split at h
    · cases h; exact ⟨nofun, nofun⟩
    · split at h
      · cases h; exact ⟨nofun, nofun⟩
      · split at h
        · cases h
        · split at h
          · rename_i hd; cases h; exact ⟨fun _ => hd, nofun⟩
          · rename_i hd; cases h; exact ⟨nofun, fun _ => by simpa using hd⟩

theorem pollNextF_finished (settle : Nat → World → Option World) (wk : Waker) (cid : Nat) (w w' : World)
    (h : pollNextF settle wk cid w = some (.finished, w')) : w'.isDoneNow cid = true :=
  (pollNextF_done settle wk cid w w' _ h).1 rfl

theorem pollNextF_pending (settle : Nat → World → Option World) (wk : Waker) (cid : Nat) (w w' : World)
    (h : pollNextF settle wk cid w = some (.pending, w')) : w'.isDoneNow cid = false :=
  (pollNextF_done settle wk cid w w' _ h).2 rfl

/-- `is_done` ⇔ no task, no effect, no event (command/mod.rs:436-440) -/
theorem isDoneNow_iff (w : World) (cid : Nat) :
    w.isDoneNow cid = true ↔ (w.cmd cid).effects = [] ∧ (w.cmd cid).events = [] ∧ (w.cmd cid).tasks.isEmpty = true := by
  simp [World.isDoneNow, List.isEmpty_iff, and_assoc]

theorem hostLoop_result (pn : Waker → Nat → World → Option (NextRes × World)) :
    ∀ (f : Nat) (wk : Waker) (cid c : Nat) (m : Mapper) (w w' : World) (fin : Bool),
      hostLoop pn f wk cid c m w = some (fin, w') →
      ∃ w0 w1, pn wk c w0 = some (if fin then .finished else .pending, w1) ∧ w' = w1 := by
  intro f
  induction f with
  | zero => intro wk cid c m w w' fin h; simp [hostLoop] at h
  | succ f ih =>
    intro wk cid c m w w' fin h
    unfold hostLoop at h
    split at h
    · cases h
    · exact ih _ _ _ _ _ _ _ h
    · rename_i _ w1 hp
      cases h
      exact ⟨w, _, by simpa using hp, rfl⟩
    · rename_i _ w1 hp
      cases h
      exact ⟨w, _, by simpa using hp, rfl⟩

end M.Rt
