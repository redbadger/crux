/- Invariant proof for the P-evict protocol of M.Conc with the repaired read order. -/
import CruxVerif.Model.Conc
namespace M.Conc

/-- the number of holders that have not dropped their clone yet -/
def live : List Holder → Nat
  | [] => 0
  | h :: hs => (if h.pc < 5 then 1 else 0) + live hs

/-- The invariant of the repaired protocol.  The count is the poller's own reference plus one per clone not yet
    dropped, and a waking holder stores `woken` before it drops its clone; so once the poller has read a count below 2
    no clone is left, and what every waking holder stored is there for the second read. -/
structure Inv (s : Evict) : Prop where
  swapped : s.readsSwapped = true
  count : s.count = 1 + live s.holders
  pcs : ∀ h ∈ s.holders, h.pc ≤ 5 ∧ (h.wakes = false → h.pc = 0 ∨ h.pc = 5)
  woken : ∀ h ∈ s.holders, h.wakes = true → 3 ≤ h.pc → s.woken = true
  readCount : 1 ≤ s.ppc → s.rCount < 2 → live s.holders = 0
  decided : s.ppc = 2 → s.cancelled = some (!s.rWoken && decide (s.rCount < 2)) ∧
            (s.rCount < 2 → (∃ h ∈ s.holders, h.wakes = true) → s.rWoken = true)
  undecided : s.ppc < 2 → s.cancelled = none
  ppc : s.ppc ≤ 2

theorem live_map_init (hs : List Bool) : live (hs.map fun w => ({ wakes := w } : Holder)) = hs.length := by
  induction hs with
  | nil => rfl
  | cons a as ih => simp [live, ih]; omega

theorem inv_init (hs : List Bool) : Inv (Evict.init true hs) := by
  refine ⟨rfl, ?_, ?_, ?_, ?_, ?_, ?_, ?_⟩
  · simp [Evict.init, live_map_init]
  · intro h hh
    simp only [Evict.init, List.mem_map] at hh
    obtain ⟨w, _, rfl⟩ := hh
    simp
  · intro h hh _ h3
    simp only [Evict.init, List.mem_map] at hh
    obtain ⟨w, _, rfl⟩ := hh
    simp at h3
  · intro h; simp [Evict.init] at h
  · intro h; simp [Evict.init] at h
  · intro _; rfl
  · simp [Evict.init]

theorem mem_modifyNth {α : Type} {l : List α} {i : Nat} {f : α → α} {x y : α} (hg : l[i]? = some y)
    (hx : x ∈ modifyNth l i f) : x ∈ l ∨ x = f y := by
  induction l generalizing i with
  | nil => simp at hg
  | cons a as ih =>
    cases i with
    | zero =>
      simp only [List.getElem?_cons_zero, Option.some.injEq] at hg
      subst hg
      simp only [modifyNth, List.mem_cons] at hx
      rcases hx with rfl | hx
      · exact .inr rfl
      · exact .inl (List.mem_cons_of_mem _ hx)
    | succ i =>
      simp only [List.getElem?_cons_succ] at hg
      simp only [modifyNth, List.mem_cons] at hx
      rcases hx with rfl | hx
      · exact .inl List.mem_cons_self
      · exact (ih hg hx).imp_left (List.mem_cons_of_mem _)

theorem live_modifyNth (l : List Holder) (i : Nat) (f : Holder → Holder) {h0 : Holder} (hg : l[i]? = some h0) :
    live (modifyNth l i f) + (if h0.pc < 5 then 1 else 0) = live l + (if (f h0).pc < 5 then 1 else 0) := by
  induction l generalizing i with
  | nil => simp at hg
  | cons a as ih =>
    cases i with
    | zero =>
      simp only [List.getElem?_cons_zero, Option.some.injEq] at hg
      subst hg
      simp only [modifyNth, live]
      omega
    | succ i =>
      simp only [List.getElem?_cons_succ] at hg
      have := ih i hg
      simp only [modifyNth, live]
      omega

theorem live_zero (l : List Holder) (h : live l = 0) : ∀ x ∈ l, ¬ x.pc < 5 := by
  induction l with
  | nil => simp
  | cons a as ih =>
    simp only [live] at h
    intro x hx
    rcases List.mem_cons.mp hx with rfl | hx
    · intro hlt; simp [hlt] at h
    · exact ih (by omega) x hx

theorem inv_adv (s : Evict) (i : Nat) (h0 : Holder) (sent wok : Bool) (hg : s.holders[i]? = some h0)
    (hw : h0.wakes = true) (hp : h0.pc < 4) (hwok : s.woken = true → wok = true) (hw3 : 3 ≤ h0.pc + 1 → wok = true)
    (hi : Inv s) :
    Inv { s with idSent := sent, woken := wok, holders := modifyNth s.holders i fun h => { h with pc := h.pc + 1 } } := by
  have hmem0 : h0 ∈ s.holders := List.mem_of_getElem? hg
  have hlive : live (modifyNth s.holders i fun h => { h with pc := h.pc + 1 }) = live s.holders := by
    have := live_modifyNth s.holders i (fun h => { h with pc := h.pc + 1 }) hg
    rw [if_pos (by omega), if_pos (show h0.pc + 1 < 5 by omega)] at this
    omega
  refine ⟨hi.swapped, ?_, ?_, ?_, ?_, ?_, hi.undecided, hi.ppc⟩
  · show s.count = 1 + live (modifyNth s.holders i _)
    rw [hlive]; exact hi.count
  · intro h hh
    rcases mem_modifyNth hg hh with hold | rfl
    · exact hi.pcs h hold
    · exact ⟨by show h0.pc + 1 ≤ 5; omega, by intro hf; rw [hw] at hf; cases hf⟩
  · intro h hh hwk h3
    rcases mem_modifyNth hg hh with hold | rfl
    · exact hwok (hi.woken h hold hwk h3)
    · exact hw3 h3
  · intro h1 h2
    show live (modifyNth s.holders i _) = 0
    rw [hlive]; exact hi.readCount h1 h2
  · intro h2
    obtain ⟨d1, d2⟩ := hi.decided h2
    exact ⟨d1, fun hc _ => d2 hc ⟨h0, hmem0, hw⟩⟩

theorem inv_drop (s : Evict) (i : Nat) (h0 : Holder) (f : Holder → Holder) (hg : s.holders[i]? = some h0) (hp : h0.pc < 5)
    (hlast : h0.wakes = true → h0.pc = 4) (hf : f h0 = { h0 with pc := 5 }) (hi : Inv s) :
    Inv { s with count := s.count - 1, holders := modifyNth s.holders i f } := by
  have hmem0 : h0 ∈ s.holders := List.mem_of_getElem? hg
  have hlive : live (modifyNth s.holders i f) + 1 = live s.holders := by
    have := live_modifyNth s.holders i f hg
    rwa [if_pos hp, if_neg (by simp [hf])] at this
  refine ⟨hi.swapped, ?_, ?_, ?_, ?_, ?_, hi.undecided, hi.ppc⟩
  · have := hi.count; simp only; omega
  · intro h hh
    rcases mem_modifyNth hg hh with hold | rfl
    · exact hi.pcs h hold
    · simp [hf]
  · intro h hh hwk h3
    rcases mem_modifyNth hg hh with hold | rfl
    · exact hi.woken h hold hwk h3
    · simp only [hf] at hwk
      exact hi.woken h0 hmem0 hwk (by have := hlast hwk; omega)
  · intro h1 h2
    have := hi.readCount h1 h2
    exact absurd hp (live_zero _ this h0 hmem0)
  · intro h2
    obtain ⟨d1, d2⟩ := hi.decided h2
    refine ⟨d1, ?_⟩
    intro hc hx
    apply d2 hc
    obtain ⟨h, hh, hwk⟩ := hx
    rcases mem_modifyNth hg hh with hold | rfl
    · exact ⟨h, hold, hwk⟩
    · exact ⟨h0, hmem0, by simpa [hf] using hwk⟩

theorem inv_stepHolder (s : Evict) (i : Nat) (hi : Inv s) : Inv (stepHolder s i) := by
  unfold stepHolder
  split
  · exact hi
  · rename_i h0 hg
    have hmem0 : h0 ∈ s.holders := List.mem_of_getElem? hg
    have hpcs := hi.pcs h0 hmem0
    simp only
    split
    · rename_i hnw
      simp only [Bool.not_eq_true'] at hnw
      split
      · rename_i hlt
        exact inv_drop s i h0 _ hg hlt (by intro hw; rw [hnw] at hw; cases hw) rfl hi
      · exact hi
    · rename_i hwk
      simp only [Bool.not_eq_true', Bool.not_eq_false] at hwk
      split
      · rename_i hpc
        exact inv_adv s i h0 _ _ hg hwk (by omega) id (by omega) hi
      · rename_i hpc
        exact inv_adv s i h0 _ _ hg hwk (by omega) id (by omega) hi
      · rename_i hpc
        exact inv_adv s i h0 _ _ hg hwk (by omega) (fun _ => rfl) (fun _ => rfl) hi
      · rename_i hpc
        exact inv_adv s i h0 _ _ hg hwk (by omega) id (fun _ => hi.woken h0 hmem0 hwk (by omega)) hi
      · rename_i hpc
        exact inv_drop s i h0 _ hg (by omega) (fun _ => hpc) (by simp [hpc]) hi
      · exact hi

theorem inv_stepPoller (s : Evict) (hi : Inv s) : Inv (stepPoller s) := by
  unfold stepPoller
  have hsw := hi.swapped
  split
  · rename_i hp
    rw [if_pos hsw]
    refine ⟨hsw, hi.count, hi.pcs, hi.woken, ?_, ?_, ?_, by simp⟩
    · intro _ h2
      have hc := hi.count
      have h2' : s.count < 2 := h2
      show live s.holders = 0
      omega
    · intro h2; simp at h2
    · intro _; exact hi.undecided (by omega)
  · rename_i hp
    rw [if_pos hsw]
    refine ⟨hsw, hi.count, hi.pcs, hi.woken, ?_, ?_, ?_, by simp⟩
    · intro _ h2; exact hi.readCount (by omega) h2
    · intro _
      refine ⟨rfl, ?_⟩
      intro hc ⟨h, hh, hwk⟩
      have hc' : s.rCount < 2 := hc
      have hl := hi.readCount (by omega) hc'
      have h5 := live_zero _ hl h hh
      have := (hi.pcs h hh).1
      exact hi.woken h hh hwk (by omega)
    · intro h2; simp at h2
  · exact hi

theorem inv_step (s : Evict) (t : Nat) (hi : Inv s) : Inv (step s t) := by
  cases t with
  | zero => exact inv_stepPoller s hi
  | succ i => exact inv_stepHolder s i hi

theorem inv_run (s : Evict) (sched : List Nat) (hi : Inv s) : Inv (run s sched) := by
  induction sched generalizing s with
  | nil => exact hi
  | cons t ts ih => exact ih _ (inv_step s t hi)

end M.Conc
