/-
`simple` task programs: tasks that wait only on shell requests and streams — emit, notify, request, stream, spawn, join,
self-wake; no select, no handoff of a request future, no join handles, no abort handles, no hosted commands. Every step of
a poll leaves the task slabs alone (`tkp_classOps`).
-/
import CruxVerif.Lemmas.LQ
namespace M.Rt

mutual
def simpleI : Instr → Bool
  | .emit _ _ => true
  | .notify _ _ => true
  | .req _ _ _ => true
  | .selfwake _ => true
  | .stream _ _ _ _ body => simpleIs body
  | .spawn _ body => simpleIs body
  | .join a b => simpleIs a && simpleIs b
  | _ => false
def simpleIs : List Instr → Bool
  | [] => true
  | i :: is => simpleI i && simpleIs is
end

mutual
def simpleB : Block → Bool
  | .mk _ cur rest => simpleP cur && simpleIs rest
def simpleP : Pend → Bool
  | .idle => true
  | .reqDead => true
  | .req _ _ => true
  | .selfwake _ => true
  | .streamWait _ _ _ _ body => simpleIs body
  | .streamBody _ _ _ _ body inner => simpleIs body && simpleB inner
  | .join a b _ _ => simpleB a && simpleB b
  | _ => false
end

theorem spB_eq (env : Env) (cur : Pend) (rest : List Instr) : simpleB (.mk env cur rest) = (simpleP cur && simpleIs rest) := by
  simp [simpleB]
theorem spP_idle : simpleP .idle = true := by simp [simpleP]
theorem spP_reqDead : simpleP .reqDead = true := by simp [simpleP]
theorem spP_req (x l : Nat) : simpleP (.req x l) = true := by simp [simpleP]
theorem spP_selfwake (k : Nat) : simpleP (.selfwake k) = true := by simp [simpleP]
theorem spP_await (s : Nat) : simpleP (.await s) = false := by simp [simpleP]
theorem spP_host (c : Nat) (m : Mapper) : simpleP (.host c m) = false := by simp [simpleP]
theorem spP_select (a b : Block) : simpleP (.select a b) = false := by simp [simpleP]
theorem spP_streamWait (x l c lim : Nat) (body : List Instr) : simpleP (.streamWait x l c lim body) = simpleIs body := by
  simp [simpleP]
theorem spP_streamBody (x l c lim : Nat) (body : List Instr) (inner : Block) :
    simpleP (.streamBody x l c lim body inner) = (simpleIs body && simpleB inner) := by simp [simpleP]
theorem spP_join (a b : Block) (ad bd : Bool) : simpleP (.join a b ad bd) = (simpleB a && simpleB b) := by simp [simpleP]
theorem spIs_nil : simpleIs [] = true := by simp [simpleIs]
theorem spIs_cons (i : Instr) (is : List Instr) : simpleIs (i :: is) = (simpleI i && simpleIs is) := by simp [simpleIs]
theorem spI_emit (t : Nat) (e : Expr) : simpleI (.emit t e) = true := by simp [simpleI]
theorem spI_notify (t : Nat) (e : Expr) : simpleI (.notify t e) = true := by simp [simpleI]
theorem spI_req (x n : Nat) (e : Expr) : simpleI (.req x n e) = true := by simp [simpleI]
theorem spI_selfwake (k : Nat) : simpleI (.selfwake k) = true := by simp [simpleI]
theorem spI_stream (x n : Nat) (e : Expr) (lim : Nat) (body : List Instr) : simpleI (.stream x n e lim body) = simpleIs body := by
  simp [simpleI]
theorem spI_spawn (h : Nat) (body : List Instr) : simpleI (.spawn h body) = simpleIs body := by simp [simpleI]
theorem spI_join (a b : List Instr) : simpleI (.join a b) = (simpleIs a && simpleIs b) := by simp [simpleI]
theorem spI_await (h : Nat) : simpleI (.await h) = false := by simp [simpleI]
theorem spI_abortTask (h : Nat) : simpleI (.abortTask h) = false := by simp [simpleI]
theorem spI_select (a b : List Instr) : simpleI (.select a b) = false := by simp [simpleI]
theorem spI_abortCmd (n : Nat) : simpleI (.abortCmd n) = false := by simp [simpleI]
theorem spI_handoff (x n : Nat) (e : Expr) (body : List Instr) : simpleI (.handoff x n e body) = false := by simp [simpleI]
theorem spI_host (c : Nat) (m : Mapper) : simpleI (.host c m) = false := by simp [simpleI]

/-! a poll leaves every task slab alone; what it adds to a spawn queue satisfies `New` (`TKp`), step by step -/
section
variable {New : Nat → Task → Prop} {w0 w : World}
theorem tkp_sinkEvent (s : Sink) (e : Ev) (h : TKp New w0 w) : TKp New w0 (w.sinkEvent s e) := h.trans (tk_sinkEvent w s e)
theorem tkp_sinkEffect (s : Sink) (e : Eff) (h : TKp New w0 w) : TKp New w0 (w.sinkEffect s e) := h.trans (tk_sinkEffect w s e)
theorem tkp_newLeaf (k : Option Waker) (lg : Bool) (h : TKp New w0 w) : TKp New w0 (w.newLeaf k lg).2 := h.trans (tk_of_cmds rfl)
theorem tkp_newMeta (h : TKp New w0 w) : TKp New w0 w.newMeta.2 := h.trans (tk_of_cmds rfl)
theorem tkp_addSpawn (c : Nat) (t : Task) (ht : New c t) (h : TKp New w0 w) : TKp New w0 (w.modCmd c (addSpawn t)) :=
  h.trans (tk_spawn w c t ht)
theorem tkp_modMeta (s : Nat) (f : Meta → Meta) (h : TKp New w0 w) : TKp New w0 (w.modMeta s f) := h.trans (tk_of_cmds rfl)
theorem tkp_modLeaf (l : Nat) (f : Leaf → Leaf) (h : TKp New w0 w) : TKp New w0 (w.modLeaf l f) := h.trans (tk_of_cmds rfl)
theorem tkp_dropReceiver (l : Nat) (h : TKp New w0 w) : TKp New w0 (w.dropReceiver l) := h.trans (tk_dropReceiver w l)
theorem tkp_dropBlock (b : Block) (hb : hostFreeB b = true) (h : TKp New w0 w) : TKp New w0 (w.dropBlock b) :=
  h.trans (tk_World_dropBlock w b hb)
theorem tkp_wake (k : Waker) (h : TKp New w0 w) : TKp New w0 (w.wake k) := h.trans (tk_World_wake w k)
theorem tkp_abortCmd (c : Nat) (h : TKp New w0 w) : TKp New w0 (w.abortCmd c) := h.trans (tk_abortCmd w c)
theorem tkp_execSpawn (xs : List ExecTask) (h : TKp New w0 w) : TKp New w0 ({ w with execSpawn := xs } : World) :=
  h.trans (tk_of_cmds rfl)
end

/-- no step of a poll touches a task slab; the tasks a poll of a block of `C` spawns satisfy `New` when the blocks of `C`
    that a `spawn` or a `handoff` starts do -/
theorem tkp_classOps {C : Block → Prop} {New : Nat → Task → Prop}
    (hs : ∀ c s env body, C (.mk env .idle body) → New c ⟨s, .mk env .idle body⟩)
    (hh : ∀ c s env x n e body l rest, C (.mk env .idle (.handoff x n e body :: rest)) → New c ⟨s, .mk env (.req x l) body⟩)
    (w0 : World) (wk : Waker) (sink : Sink) : ClassOps C wk sink (fun _ => True) (TKp New w0) where
  event _ e := tkp_sinkEvent sink e
  effect _ e := tkp_sinkEffect sink e
  newLeaf _ lg h := ⟨tkp_newLeaf _ lg h, trivial⟩
  spawn _ c _ _ _ hb h := tkp_addSpawn c _ (hs c _ _ _ hb) (tkp_newMeta h)
  legacy _ _ _ _ _ := tkp_execSpawn _
  handoff _ c _ _ _ _ _ l _ _ hb h := tkp_addSpawn c _ (hh c _ _ _ _ _ _ l _ hb) (tkp_newMeta h)
  legacyHandoff _ _ _ _ _ _ _ _ _ _ := tkp_execSpawn _
  abortTask _ s _ _ _ _ := tkp_modMeta s _
  abortCmd _ c _ _ _ _ := tkp_abortCmd c
  dropReceiver _ l _ := tkp_dropReceiver l
  setWaker _ l _ _ := tkp_modLeaf l _
  setQueue _ l _ _ := tkp_modLeaf l _
  join _ s _ _ _ := tkp_modMeta s _
  wake _ := tkp_wake wk

/-- since `w0`, no task slab was touched and whatever joined a spawn queue is simple -/
abbrev SK (w0 w : World) : Prop := TKp (fun _ t => simpleB t.fut = true) w0 w

section
variable {w0 w : World}
theorem sk_modMeta (s : Nat) (f : Meta → Meta) (h : SK w0 w) : SK w0 (w.modMeta s f) := tkp_modMeta s f h
theorem sk_dropBlock (b : Block) (hb : hostFreeB b = true) (h : SK w0 w) : SK w0 (w.dropBlock b) := tkp_dropBlock b hb h
theorem sk_abortCmd (c : Nat) (h : SK w0 w) : SK w0 (w.abortCmd c) := tkp_abortCmd c h
end

end M.Rt
