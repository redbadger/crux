/- Frame lemmas: every world operation a host-free poll performs is monotone in the sense of `Mono`.
   Also here: dropping a host-free future only drops receivers (`dropBlock_hf_inv`, for an arbitrary predicate: the case
   "hosts nothing below 0" of `dropBlock_lt`). -/
import CruxVerif.Lemmas.HostLtDefs
namespace M.Rt

theorem mono_modCmd (wk : Waker) (w : World) (c : Nat) (f : CmdSt → CmdSt) : Mono wk w (w.modCmd c f) :=
  Mono.of_same rfl rfl rfl

theorem mono_sinkEvent (wk : Waker) (w : World) (s : Sink) (e : Ev) : Mono wk w (w.sinkEvent s e) := by
  cases s <;> exact Mono.of_same rfl rfl rfl

theorem mono_sinkEffect (wk : Waker) (w : World) (s : Sink) (e : Eff) : Mono wk w (w.sinkEffect s e) := by
  cases s <;> exact Mono.of_same rfl rfl rfl

theorem mono_execSpawn (wk : Waker) (w : World) (x : List ExecTask) : Mono wk w { w with execSpawn := x } :=
  Mono.of_same rfl rfl rfl

theorem mono_newMeta (wk : Waker) (w : World) : Mono wk w w.newMeta.2 :=
  ⟨Nat.le_refl _, by simp [World.newMeta_frame], fun _ _ => Or.inl rfl, fun s h => by rw [World.getMeta_newMeta]; exact h,
    fun _ h => h⟩

theorem mono_modMeta (wk : Waker) (w : World) (s : Nat) (f : Meta → Meta)
    (hf : ∀ m, wk ∈ m.joinWakers → wk ∈ (f m).joinWakers) : Mono wk w (w.modMeta s f) := by
  refine ⟨Nat.le_refl _, by simp [World.modMeta_frame], fun _ _ => Or.inl rfl, ?_, fun _ h => h⟩
  intro t h
  rw [World.getMeta_modMeta]
  split
  · exact hf _ h
  · exact h

theorem mono_newLeaf (wk : Waker) (w : World) (wk' : Option Waker) (legacy : Bool) : Mono wk w (w.newLeaf wk' legacy).2 :=
  ⟨by simp [World.newLeaf_frame], Nat.le_refl _, fun l hl => Or.inl (by rw [World.leaf_newLeaf_old w wk' legacy l hl]),
    fun _ h => h, fun _ h => h⟩

theorem mono_modLeaf (wk : Waker) (w : World) (l : Nat) (f : Leaf → Leaf)
    (hf : ∀ lf, (f lf).waker = lf.waker ∨ (f lf).waker = some wk) : Mono wk w (w.modLeaf l f) := by
  refine ⟨by simp [World.modLeaf_frame], Nat.le_refl _, ?_, fun _ h => h, fun _ h => h⟩
  intro l' _
  rw [World.leaf_modLeaf]
  split
  · exact hf _
  · exact Or.inl rfl

theorem mono_dropReceiver (wk : Waker) (w : World) (l : Nat) : Mono wk w (w.dropReceiver l) :=
  mono_modLeaf wk w l _ (fun _ => Or.inl rfl)

theorem wake_woken (f : Nat) (wk' : Waker) (w : World) (s : Nat) (h : s ∈ w.woken) : s ∈ (wake f wk' w).woken :=
  wake_inv (J := fun w' => s ∈ w'.woken) (fun _ _ _ h => h) (fun _ _ h => h) (fun _ _ h => List.mem_cons_of_mem _ h)
    (fun _ _ h => h) (fun _ _ h => h) f wk' w h

theorem mono_wake (wk wk' : Waker) (w : World) : Mono wk w (w.wake wk') := by
  obtain ⟨-, hl, hm, -, -, -, -, -, hlf, hgm⟩ := World.wake_frame w wk'
  exact ⟨Nat.le_of_eq (by rw [hl]), Nat.le_of_eq (by rw [hm]), fun l _ => Or.inl (by rw [hlf]), fun s h => by rw [hgm]; exact h,
    fun s h => wake_woken _ _ _ s h⟩

theorem wake_self_woken (f : Nat) (cid tid serial : Nat) (w : World) :
    serial ∈ (wake (f + 1) (.task cid tid serial) w).woken := by
  unfold wake
  simp only
  split
  · exact List.mem_cons_self
  · exact wake_woken _ _ _ _ List.mem_cons_self

theorem wokenBy_wake_self (wk : Waker) (w : World) : wokenBy wk (w.wake wk) := by
  cases wk with
  | root e => trivial
  | task cid tid serial => exact wake_self_woken _ cid tid serial w

theorem mono_abortCmd (wk : Waker) (w : World) (c : Nat) : Mono wk w (w.abortCmd c) :=
  World.abortCmd_inv (J := Mono wk w) (fun _ _ h => h.trans (mono_modMeta wk _ _ _ fun _ h => h))
    (fun _ h => h.trans (mono_modCmd wk _ _ _)) (fun _ _ h => h.trans (mono_wake wk _ _)) w (Mono.refl wk w)

theorem foldl_hostFree (g : World → Instr → World) (hg : ∀ w i, hostFreeI i = true → g w i = w) :
    ∀ (is : List Instr) (w : World), hostFreeIs is = true → is.foldl g w = w := by
  intro is
  induction is with
  | nil => intro w _; rfl
  | cons i is ih =>
    intro w hi
    simp only [hostFreeIs, Bool.and_eq_true] at hi
    simp only [List.foldl_cons]
    rw [hg w i hi.1]; exact ih w hi.2

theorem dropBlock_hostFree_rest (dc : Nat → World → World) (env : Env) (cur : Pend) (rest : List Instr) (w : World)
    (h : hostFreeIs rest = true) : dropBlock dc (.mk env cur rest) w = dropPend dc cur w := by
  simp only [dropBlock]
  refine foldl_hostFree _ (fun w i hi => ?_) rest _ h
  cases i with
  | host c m => simp [hostFreeI] at hi
  | _ => rfl

section
variable {J : World → Prop} {dc : Nat → World → World}

theorem dropBlock_hf_inv (hr : ∀ w l, J w → J (w.dropReceiver l)) (b : Block) (w : World) (hf : hostFreeB b = true)
    (h : J w) : J (dropBlock dc b w) :=
  dropBlock_lt (p := 0) (fun _ _ hc => absurd hc (Nat.not_lt_zero _)) hr b w (by rw [hostsLtB_zero]; exact hf) h

theorem dropPend_hf_inv (hr : ∀ w l, J w → J (w.dropReceiver l)) (p : Pend) (w : World) (hf : hostFreeP p = true)
    (h : J w) : J (dropPend dc p w) :=
  dropPend_lt (p := 0) (fun _ _ hc => absurd hc (Nat.not_lt_zero _)) hr p w (by rw [hostsLtP_zero]; exact hf) h

end

theorem dropPend_mono (wk : Waker) (dc : Nat → World → World) : (p : Pend) → (w : World) → hostFreeP p = true →
    Mono wk w (dropPend dc p w) :=
  fun p w h => dropPend_hf_inv (J := Mono wk w) (fun _ l hw => hw.trans (mono_dropReceiver wk _ l)) p w h (Mono.refl wk w)

theorem mono_dropBlock (wk : Waker) (w : World) (b : Block) (h : hostFreeB b = true) : Mono wk w (w.dropBlock b) :=
  dropBlock_hf_inv (J := Mono wk w) (fun _ l hw => hw.trans (mono_dropReceiver wk _ l)) b w h (Mono.refl wk w)

theorem Mono.parked_leaf {wk : Waker} {w w' : World} (hm : Mono wk w w') {l : Nat}
    (h : l < w.leaves.length ∧ (w.leaf l).waker = some wk) : l < w'.leaves.length ∧ (w'.leaf l).waker = some wk := by
  refine ⟨Nat.lt_of_lt_of_le h.1 hm.len, ?_⟩
  rcases hm.leaf l h.1 with e | e
  · rw [e]; exact h.2
  · exact e

mutual
theorem ParkedB.mono {wk : Waker} {w w' : World} (hm : Mono wk w w') : (b : Block) → ParkedB wk w b → ParkedB wk w' b
  | .mk _ cur _, h => by simp only [ParkedB] at h ⊢; exact ParkedP.mono hm cur h
theorem ParkedP.mono {wk : Waker} {w w' : World} (hm : Mono wk w w') : (p : Pend) → ParkedP wk w p → ParkedP wk w' p
  | .idle, h => by simp [ParkedP] at h
  | .reqDead, _ => by simp [ParkedP]
  | .host _ _, _ => by simp [ParkedP]
  | .req _ l, h => by simp only [ParkedP] at h ⊢; exact hm.parked_leaf h
  | .streamWait _ l _ _ _, h => by simp only [ParkedP] at h ⊢; exact hm.parked_leaf h
  | .streamBody _ _ _ _ _ inner, h => by simp only [ParkedP] at h ⊢; exact ParkedB.mono hm inner h
  | .await s, h => by simp only [ParkedP] at h ⊢; exact hm.joins s h
  | .join a b ad bd, h => by
    simp only [ParkedP] at h ⊢
    exact ⟨fun e => ParkedB.mono hm a (h.1 e), fun e => ParkedB.mono hm b (h.2 e)⟩
  | .select a b, h => by
    simp only [ParkedP] at h ⊢
    exact ⟨ParkedB.mono hm a h.1, ParkedB.mono hm b h.2⟩
  | .selfwake _, h => by
    simp only [ParkedP] at h ⊢
    cases wk with
    | root _ => trivial
    | task _ _ s => exact hm.woken s h
end

end M.Rt
