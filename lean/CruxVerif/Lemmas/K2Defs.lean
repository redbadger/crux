/-
K2 — "no lost wake-up at a leaf", definitions.

For a task block that hosts no command (`hostFree`: every block of a user task in the DSL; hosting blocks are created by
the combinators only), one poll with waker `wk` leaves the block *parked* (`ParkedB`): every point it is suspended at either
holds `wk` — a request / stream leaf has `wk` in its waker slot, an awaited join handle has `wk` in its waker queue, a
self-waking future has set `woken` — or is a request whose channel has closed (`reqDead`).
`Mono wk w w'` is the frame of one poll: waker slots of existing leaves keep their content or receive `wk`, join-handle
queues and the `woken` set only grow.
-/
import CruxVerif.Lemmas.Resolve
namespace M.Rt

mutual
def hostFreeI : Instr → Bool
  | .host _ _ => false
  | .stream _ _ _ _ body => hostFreeIs body
  | .spawn _ body => hostFreeIs body
  | .handoff _ _ _ body => hostFreeIs body
  | .join a b => hostFreeIs a && hostFreeIs b
  | .select a b => hostFreeIs a && hostFreeIs b
  | _ => true
def hostFreeIs : List Instr → Bool
  | [] => true
  | i :: is => hostFreeI i && hostFreeIs is
end

mutual
def hostFreeB : Block → Bool
  | .mk _ cur rest => hostFreeP cur && hostFreeIs rest
def hostFreeP : Pend → Bool
  | .host _ _ => false
  | .streamWait _ _ _ _ body => hostFreeIs body
  | .streamBody _ _ _ _ body inner => hostFreeIs body && hostFreeB inner
  | .join a b _ _ => hostFreeB a && hostFreeB b
  | .select a b => hostFreeB a && hostFreeB b
  | _ => true
end

/-- every join-handle id bound in the environment exists -/
def envOk (nm : Nat) (env : Env) : Bool := env.handles.all fun p => decide (p.2 < nm)

-- every leaf id (< n) and join-handle id (< nm) mentioned by the block exists
mutual
def inRangeB (n nm : Nat) : Block → Bool
  | .mk env cur _ => envOk nm env && inRangeP n nm cur
def inRangeP (n nm : Nat) : Pend → Bool
  | .req _ l => decide (l < n)
  | .streamWait _ l _ _ _ => decide (l < n)
  | .streamBody _ l _ _ _ inner => decide (l < n) && inRangeB n nm inner
  | .await s => decide (s < nm)
  | .join a b _ _ => inRangeB n nm a && inRangeB n nm b
  | .select a b => inRangeB n nm a && inRangeB n nm b
  | _ => true
end

def wokenBy (wk : Waker) (w : World) : Prop :=
  match wk with
  | .task _ _ s => s ∈ w.woken
  | .root _ => True

mutual
def ParkedB (wk : Waker) (w : World) : Block → Prop
  | .mk _ cur _ => ParkedP wk w cur
def ParkedP (wk : Waker) (w : World) : Pend → Prop
  | .idle => False
  | .req _ l => l < w.leaves.length ∧ (w.leaf l).waker = some wk
  | .reqDead => True
  | .streamWait _ l _ _ _ => l < w.leaves.length ∧ (w.leaf l).waker = some wk
  | .streamBody _ _ _ _ _ inner => ParkedB wk w inner
  | .await s => wk ∈ (w.getMeta s).joinWakers
  | .join a b ad bd => (ad = false → ParkedB wk w a) ∧ (bd = false → ParkedB wk w b)
  | .select a b => ParkedB wk w a ∧ ParkedB wk w b
  | .selfwake _ => wokenBy wk w
  | .host _ _ => True
end

-- the block is suspended only at requests whose channel has closed: nothing can ever wake it
mutual
def deadOnlyB : Block → Bool
  | .mk _ cur _ => deadOnlyP cur
def deadOnlyP : Pend → Bool
  | .reqDead => true
  | .streamBody _ _ _ _ _ inner => deadOnlyB inner
  | .join a b ad bd => (ad || deadOnlyB a) && (bd || deadOnlyB b)
  | .select a b => deadOnlyB a && deadOnlyB b
  | .host _ _ => true
  | _ => false
end

structure Mono (wk : Waker) (w w' : World) : Prop where
  len : w.leaves.length ≤ w'.leaves.length
  mlen : w.metas.length ≤ w'.metas.length
  leaf : ∀ l, l < w.leaves.length → (w'.leaf l).waker = (w.leaf l).waker ∨ (w'.leaf l).waker = some wk
  joins : ∀ s, wk ∈ (w.getMeta s).joinWakers → wk ∈ (w'.getMeta s).joinWakers
  woken : ∀ s, s ∈ w.woken → s ∈ w'.woken

theorem Mono.refl (wk : Waker) (w : World) : Mono wk w w :=
  ⟨Nat.le_refl _, Nat.le_refl _, fun _ _ => Or.inl rfl, fun _ h => h, fun _ h => h⟩

theorem Mono.trans {wk : Waker} {w1 w2 w3 : World} (h12 : Mono wk w1 w2) (h23 : Mono wk w2 w3) : Mono wk w1 w3 := by
  refine ⟨Nat.le_trans h12.len h23.len, Nat.le_trans h12.mlen h23.mlen, ?_, fun s h => h23.joins s (h12.joins s h), fun s h => h23.woken s (h12.woken s h)⟩
  intro l hl
  have h2 : l < w2.leaves.length := Nat.lt_of_lt_of_le hl h12.len
  rcases h23.leaf l h2 with e | e
  · rw [e]; exact h12.leaf l hl
  · exact Or.inr e

theorem Mono.of_same {wk : Waker} {w w' : World} (hl : w'.leaves = w.leaves) (hm : w'.metas = w.metas)
    (hw : w'.woken = w.woken) : Mono wk w w' := by
  refine ⟨by rw [hl]; exact Nat.le_refl _, by rw [hm]; exact Nat.le_refl _, ?_, ?_, ?_⟩
  · intro l _; left; simp [World.leaf, hl]
  · intro s h; simpa [World.getMeta, hm] using h
  · intro s h; simpa [hw] using h

end M.Rt
