/- Lemmas about the shell side of M.Rt: `resolveReq` in closed form and for an arbitrary predicate, what a resolution
   delivers (core/resolve.rs, context.rs). -/
import CruxVerif.Lemmas.RtBasic
namespace M.Rt

/-- what the resolve closure does when the receiver is alive: the value is queued, the registered waker taken and woken -/
def World.deliver (w : World) (l : Nat) (v : Val) : World :=
  let w' := w.modLeaf l fun lf => { lf with queue := lf.queue ++ [v], waker := none }
  match (w.leaf l).waker with
  | some wk => w'.wake wk
  | none => w'

theorem resolveReq_once (l : Nat) (v : Val) (w : World) :
    resolveReq (.once l) v w = (.never, .ok, (if (w.leaf l).receiverAlive then w.deliver l v else w).dropSender l) := by
  simp only [resolveReq, World.deliver]
  split <;> rfl

theorem resolveReq_many (l : Nat) (v : Val) (w : World) :
    resolveReq (.many l) v w =
      if (w.leaf l).receiverAlive then (.many l, .ok, w.deliver l v) else (.many l, .finished, w) := by
  simp only [resolveReq, World.deliver]
  split <;> rfl

theorem resolve_never (v : Val) (w : World) : resolveReq .never v w = (.never, .never, w) := rfl

theorem World.deliver_inv {J : World → Prop} {l : Nat} {v : Val}
    (send : ∀ w, J w → J (w.modLeaf l fun lf => { lf with queue := lf.queue ++ [v], waker := none }))
    (wake : ∀ w wk, J w → J (w.wake wk)) (w : World) (h : J w) : J (w.deliver l v) := by
  unfold World.deliver
  simp only
  split
  · exact wake _ _ (send w h)
  · exact send w h

theorem resolveReq_inv {J : World → Prop} (dl : ∀ w l v, (w.leaf l).receiverAlive = true → J w → J (w.deliver l v))
    (ds : ∀ w l, J w → J (w.dropSender l)) (r : Resolve) (v : Val) (w : World) (hw : J w) : J (resolveReq r v w).2.2 := by
  cases r with
  | never => exact hw
  | gone => exact hw
  | once l =>
    rw [resolveReq_once]
    refine ds _ l ?_
    split
    · rename_i ha; exact dl w l v ha hw
    · exact hw
  | many l =>
    rw [resolveReq_many]
    split
    · rename_i ha; exact dl w l v ha hw
    · exact hw

theorem World.deliver_leaf_queue (w : World) (l : Nat) (v : Val) (hl : l < w.leaves.length) :
    ((w.deliver l v).leaf l).queue = (w.leaf l).queue ++ [v] := by
  unfold World.deliver
  simp only
  split <;> simp [World.wake_frame, World.leaf_modLeaf_lt _ _ _ hl]

theorem World.dropSender_leaf_queue (w : World) (l : Nat) : ((w.dropSender l).leaf l).queue = (w.leaf l).queue :=
  World.dropSender_inv (J := fun w' => (w'.leaf l).queue = (w.leaf l).queue)
    (fun w' h => by rw [World.leaf_modLeaf]; split <;> exact h)
    (fun w' h => by rw [World.leaf_modLeaf]; split <;> exact h)
    (fun w' _ h => by simpa [World.wake_frame] using h) w rfl

theorem resolve_once_consumes (l : Nat) (v : Val) (w : World) :
    (resolveReq (.once l) v w).1 = .never ∧ (resolveReq (.once l) v w).2.1 = .ok := by
  rw [resolveReq_once]; exact ⟨rfl, rfl⟩

theorem resolve_once_second_rejected (l : Nat) (v v' : Val) (w : World) :
    let (r, _, w1) := resolveReq (.once l) v w
    resolveReq r v' w1 = (.never, .never, w1) := by
  rw [resolveReq_once]; rfl

theorem resolve_many_iff (l : Nat) (v : Val) (w : World) :
    ((resolveReq (.many l) v w).2.1 = .ok ↔ (w.leaf l).receiverAlive = true) ∧
    ((w.leaf l).receiverAlive = false → resolveReq (.many l) v w = (.many l, .finished, w)) := by
  rw [resolveReq_many]
  cases (w.leaf l).receiverAlive <;> simp

theorem resolve_many_appends (l : Nat) (v : Val) (w : World) (hl : l < w.leaves.length)
    (h : (w.leaf l).receiverAlive = true) :
    (resolveReq (.many l) v w).1 = .many l ∧
    ((resolveReq (.many l) v w).2.2.leaf l).queue = (w.leaf l).queue ++ [v] := by
  rw [resolveReq_many, if_pos h]
  exact ⟨rfl, World.deliver_leaf_queue w l v hl⟩

theorem resolve_once_delivers (l : Nat) (v : Val) (w : World) (hl : l < w.leaves.length)
    (h : (w.leaf l).receiverAlive = true) :
    ((resolveReq (.once l) v w).2.2.leaf l).queue = (w.leaf l).queue ++ [v] := by
  rw [resolveReq_once, if_pos h, World.dropSender_leaf_queue, World.deliver_leaf_queue w l v hl]

theorem newLeaf_fresh (w : World) (wk : Option Waker) (legacy : Bool) :
    (w.newLeaf wk legacy).1 = w.leaves.length ∧ (w.newLeaf wk legacy).2.leaves.length = w.leaves.length + 1 ∧
    ∀ l, l < w.leaves.length → (w.newLeaf wk legacy).2.leaves[l]? = w.leaves[l]? := by
  refine ⟨rfl, (World.newLeaf_frame w wk legacy).2.1, ?_⟩
  intro l hl
  simp [World.newLeaf, List.getElem?_append_left hl]

end M.Rt
