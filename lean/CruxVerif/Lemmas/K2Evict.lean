/- K2, conclusion: a host-free task that `run_task` evicts is suspended only at requests whose channel has closed. -/
import CruxVerif.Lemmas.K2
import CruxVerif.Lemmas.RtTask
namespace M.Rt

theorem pollBlock_good (pn) : ∀ f, Good pn f
  | 0 => good_zero pn
  | f + 1 => good_succ pn f (pollBlock_good pn f)

theorem filter_length_pos {α : Type} (p : α → Bool) (l : List α) (a : α) (ha : a ∈ l) (hp : p a = true) :
    0 < (l.filter p).length := by
  have : a ∈ l.filter p := List.mem_filter.mpr ⟨ha, hp⟩
  exact List.length_pos_of_mem this

theorem sum_map_pos {α : Type} (g : α → Nat) : ∀ (l : List α) (a : α), a ∈ l → 0 < g a → 0 < (l.map g).sum
  | [], _, h, _ => by cases h
  | b :: l, a, h, hp => by
    simp only [List.map_cons, List.sum_cons]
    rcases List.mem_cons.mp h with rfl | h
    · omega
    · have := sum_map_pos g l a h hp; omega

theorem holders_of_leaf (w w0 : World) (e : w0.leaves = w.leaves) (c t s l : Nat) (hl : l < w.leaves.length)
    (h : (w.leaf l).waker = some (.task c t s)) : 0 < w0.holders s := by
  have hget : w.leaves[l]? = some w.leaves[l] := by simp [hl]
  have hmem : w.leaves[l] ∈ w.leaves := List.getElem_mem hl
  simp only [World.leaf, hget, Option.getD_some] at h
  have := filter_length_pos (fun lf => isSerial s lf.waker) w.leaves _ hmem (by simp [h, isSerial])
  unfold World.holders; rw [e]; omega

theorem holders_of_join (w w0 : World) (e : w0.metas = w.metas) (c t s s' : Nat)
    (h : Waker.task c t s ∈ (w.getMeta s').joinWakers) : 0 < w0.holders s := by
  simp only [World.getMeta] at h
  cases hm : w.metas[s']? with
  | none => simp [hm] at h
  | some m =>
    simp only [hm, Option.getD_some] at h
    have hmem : m ∈ w.metas := List.mem_of_getElem? hm
    have h1 := filter_length_pos (fun k => isSerial s (some k)) m.joinWakers _ h (by simp [isSerial])
    have := sum_map_pos (fun m : Meta => (m.joinWakers.filter fun k => isSerial s (some k)).length) w.metas m hmem h1
    unfold World.holders; rw [e]; omega

mutual
theorem parked_unheld_dead (w w0 : World) (el : w0.leaves = w.leaves) (em : w0.metas = w.metas) (c t s : Nat) (h0 : w0.holders s = 0) (hw : s ∉ w.woken) :
    (b : Block) → ParkedB (.task c t s) w b → deadOnlyB b = true
  | .mk _ cur _, h => by simp only [ParkedB] at h; simp only [deadOnlyB]; exact parkedP_unheld_dead w w0 el em c t s h0 hw cur h
theorem parkedP_unheld_dead (w w0 : World) (el : w0.leaves = w.leaves) (em : w0.metas = w.metas) (c t s : Nat) (h0 : w0.holders s = 0) (hw : s ∉ w.woken) :
    (p : Pend) → ParkedP (.task c t s) w p → deadOnlyP p = true
  | .idle, h => by simp [ParkedP] at h
  | .reqDead, _ => rfl
  | .host _ _, _ => rfl
  | .req _ l, h => by
    simp only [ParkedP] at h
    have := holders_of_leaf w w0 el c t s l h.1 h.2; omega
  | .streamWait _ l _ _ _, h => by
    simp only [ParkedP] at h
    have := holders_of_leaf w w0 el c t s l h.1 h.2; omega
  | .streamBody _ _ _ _ _ inner, h => by
    simp only [ParkedP] at h; simp only [deadOnlyP]; exact parked_unheld_dead w w0 el em c t s h0 hw inner h
  | .await s', h => by
    simp only [ParkedP] at h
    have := holders_of_join w w0 em c t s s' h; omega
  | .join a b ad bd, h => by
    simp only [ParkedP] at h
    simp only [deadOnlyP, Bool.and_eq_true, Bool.or_eq_true]
    refine ⟨?_, ?_⟩
    · cases ad with
      | true => exact Or.inl rfl
      | false => exact Or.inr (parked_unheld_dead w w0 el em c t s h0 hw a (h.1 rfl))
    · cases bd with
      | true => exact Or.inl rfl
      | false => exact Or.inr (parked_unheld_dead w w0 el em c t s h0 hw b (h.2 rfl))
  | .select a b, h => by
    simp only [ParkedP] at h
    simp only [deadOnlyP, Bool.and_eq_true]
    exact ⟨parked_unheld_dead w w0 el em c t s h0 hw a h.1, parked_unheld_dead w w0 el em c t s h0 hw b h.2⟩
  | .selfwake _, h => by
    simp only [ParkedP, wokenBy] at h
    exact absurd h hw
end

/-- **Eviction is sound.** If `run_task` discards a task as `Cancelled`, and the task's future is a host-free block whose
    leaf and join-handle ids exist, then the future is suspended *only* at requests whose channel has closed
    (`deadOnlyB`): no request, stream, join handle or self-wake it waits on is still able to wake it. For every fuel,
    every `pollNext` of nested commands, every world. -/
theorem evicted_task_is_dead (pn : Waker → Nat → World → Option (NextRes × World)) (f : Nat) (cid tid : Nat) (w w' : World)
    (h : runTaskF (pollBlock pn f) cid tid w = some (.cancelled, w')) :
    ∃ t b w1, (w.cmd cid).tasks.get? tid = some t ∧
      pollBlock pn f (.task cid tid w.nextSerial) (.cmd cid) t.fut { w with nextSerial := w.nextSerial + 1 } = some (.pending b, w1) ∧
      (hostFreeB t.fut = true → inRangeB w.leaves.length w.metas.length t.fut = true → deadOnlyB b = true) := by
  obtain ⟨t, b, w1, hg, hp, hwk, rfl, h0⟩ := runTaskF_cancelled_park _ cid tid w w' h
  refine ⟨t, b, w1, hg, hp, ?_⟩
  intro hf hr
  have hgood := pollBlock_good pn f _ _ _ _ _ _ hp hf hr
  have hpk : ParkedB (.task cid tid w.nextSerial) w1 b := hgood.2.1
  have hnw : w.nextSerial ∉ w1.woken := by
    intro hc
    have : w1.woken.contains w.nextSerial = true := List.contains_iff_mem.mpr hc
    rw [hwk] at this; cases this
  exact parked_unheld_dead w1 (parkTask cid tid t w.nextSerial b w1) rfl rfl cid tid w.nextSerial h0 hnw b hpk

end M.Rt
