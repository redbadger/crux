-- Root of the CruxVerif library: every model, specification, lemma and property module (regenerate with tools/gen_root.py).
import CruxVerif.Lemmas.Acc
import CruxVerif.Lemmas.BincodeComplete
import CruxVerif.Lemmas.BincodePrim
import CruxVerif.Lemmas.BincodeSound
import CruxVerif.Lemmas.Bridge
import CruxVerif.Lemmas.BridgeInv
import CruxVerif.Lemmas.Codegen
import CruxVerif.Lemmas.CodegenFilter
import CruxVerif.Lemmas.CodegenOrder
import CruxVerif.Lemmas.CodegenSet
import CruxVerif.Lemmas.Complete
import CruxVerif.Lemmas.CompleteS
import CruxVerif.Lemmas.Conc
import CruxVerif.Lemmas.CoreFrame
import CruxVerif.Lemmas.Deliver
import CruxVerif.Lemmas.Det
import CruxVerif.Lemmas.EvOrder
import CruxVerif.Lemmas.EvictComplete
import CruxVerif.Lemmas.FreshCore
import CruxVerif.Lemmas.FreshDefs
import CruxVerif.Lemmas.FreshPoll
import CruxVerif.Lemmas.FreshUse
import CruxVerif.Lemmas.Futures
import CruxVerif.Lemmas.GCore
import CruxVerif.Lemmas.GDefs
import CruxVerif.Lemmas.GExec
import CruxVerif.Lemmas.GPark
import CruxVerif.Lemmas.GParkCore
import CruxVerif.Lemmas.GPoll
import CruxVerif.Lemmas.GRun
import CruxVerif.Lemmas.HostLtBuild
import CruxVerif.Lemmas.HostLtDefs
import CruxVerif.Lemmas.HostLtDrop
import CruxVerif.Lemmas.HostLtExec
import CruxVerif.Lemmas.Http
import CruxVerif.Lemmas.K2
import CruxVerif.Lemmas.K2Defs
import CruxVerif.Lemmas.K2Evict
import CruxVerif.Lemmas.K2Steps
import CruxVerif.Lemmas.LQ
import CruxVerif.Lemmas.Loops
import CruxVerif.Lemmas.Mw
import CruxVerif.Lemmas.NoAbort
import CruxVerif.Lemmas.NoReg
import CruxVerif.Lemmas.Occ
import CruxVerif.Lemmas.OwnDefs
import CruxVerif.Lemmas.OwnExec
import CruxVerif.Lemmas.PFrame
import CruxVerif.Lemmas.Park
import CruxVerif.Lemmas.PollFrame
import CruxVerif.Lemmas.QCore
import CruxVerif.Lemmas.QDefs
import CruxVerif.Lemmas.QExec
import CruxVerif.Lemmas.QRun
import CruxVerif.Lemmas.QSteps
import CruxVerif.Lemmas.RCore
import CruxVerif.Lemmas.RFrame
import CruxVerif.Lemmas.RPoll
import CruxVerif.Lemmas.RRun
import CruxVerif.Lemmas.Refs
import CruxVerif.Lemmas.RefsDefs
import CruxVerif.Lemmas.Resolve
import CruxVerif.Lemmas.RtBasic
import CruxVerif.Lemmas.RtCore
import CruxVerif.Lemmas.RtExec
import CruxVerif.Lemmas.RtTask
import CruxVerif.Lemmas.Simple
import CruxVerif.Lemmas.SimpleS
import CruxVerif.Lemmas.Slab
import CruxVerif.Lemmas.SlabSum
import CruxVerif.Lemmas.Slot
import CruxVerif.Lemmas.TasksFrame
import CruxVerif.Lemmas.Timer.Base
import CruxVerif.Lemmas.Timer.ClearedSet
import CruxVerif.Lemmas.Timer.Direct
import CruxVerif.Lemmas.Timer.Legacy
import CruxVerif.Lemmas.Timer.LegacyWorld
import CruxVerif.Lemmas.Timer.Mixed
import CruxVerif.Lemmas.Timer.MixedSound
import CruxVerif.Lemmas.Timer.Sim
import CruxVerif.Lemmas.Timer.Step
import CruxVerif.Lemmas.Timer.World
import CruxVerif.Lemmas.Utf8
import CruxVerif.Lemmas.WPoll
import CruxVerif.Lemmas.Wake
import CruxVerif.Lemmas.XFrame
import CruxVerif.Model.Bincode
import CruxVerif.Model.Bridge
import CruxVerif.Model.Codegen
import CruxVerif.Model.Conc
import CruxVerif.Model.Conv
import CruxVerif.Model.Det
import CruxVerif.Model.Futures
import CruxVerif.Model.Hosts
import CruxVerif.Model.Http
import CruxVerif.Model.Kv
import CruxVerif.Model.Mw
import CruxVerif.Model.Rt
import CruxVerif.Model.Schema
import CruxVerif.Model.Slab
import CruxVerif.Model.Slot
import CruxVerif.Model.Timer
import CruxVerif.Props.C01
import CruxVerif.Props.C02
import CruxVerif.Props.C03
import CruxVerif.Props.C04
import CruxVerif.Props.C05
import CruxVerif.Props.C06
import CruxVerif.Props.C07
import CruxVerif.Props.C08
import CruxVerif.Props.C09
import CruxVerif.Props.C10
import CruxVerif.Props.C11
import CruxVerif.Props.C12
import CruxVerif.Props.C13
import CruxVerif.Props.C14
import CruxVerif.Props.C15
import CruxVerif.Props.C16
import CruxVerif.Props.C17
import CruxVerif.Props.C18
import CruxVerif.Props.C19
import CruxVerif.Props.C20
import CruxVerif.Spec.Codec
import CruxVerif.Spec.Codegen
import CruxVerif.Spec.Conv
import CruxVerif.Spec.Det
import CruxVerif.Spec.Http
import CruxVerif.Spec.Kv
import CruxVerif.Spec.Mw
import CruxVerif.Spec.Timer
import CruxVerif.Util.Hex
import CruxVerif.Util.Sexp
